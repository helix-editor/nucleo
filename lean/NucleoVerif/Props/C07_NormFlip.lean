import NucleoVerif.Props.C07_SmartCase
/-! # C07 (companion file) — the smart-normalization flip: when it narrows, and the witness that it does not always (F16)

Appending a character that normalization would change turns `normalize` off for the last atom.  Without case folding
that still narrows: the normalized haystack is the image of the raw one and normalization fixes the old needle.  With
case folding it does not (the two disagree on a few characters; replayed on the real code as finding F16), which is why
`MultiPattern::reparse` refuses the shortcut whenever the flag flips. -/
namespace NucleoVerif
open Gen Spec Sub

theorem C07_normalization_flip_narrows_case_sensitive (cfg : Cfg) (ext : Ext) (nrep : Rep) (h n s : List Nat)
    (hF : (n ++ s).map (norm { cfg with ignoreCase := false, normalize := false } nrep) = n ++ s)
    (hN : n.map (norm { cfg with ignoreCase := false, normalize := true } nrep) = n) (hfix : n.map normalizeLatin = n)
    (hm : (fuzzyMatch { cfg with ignoreCase := false, normalize := false } ext .unicode nrep h (n ++ s)).isSome = true) :
    (fuzzyMatch { cfg with ignoreCase := false, normalize := true } ext .unicode nrep h n).isSome = true :=
  fuzzy_narrows { cfg with ignoreCase := false, normalize := true } { cfg with ignoreCase := false, normalize := false } ext
    .unicode nrep nrep h n (n ++ s) normalizeLatin (hk := nofun) (hk' := nofun) (norm_normalize cfg)
    (by rw [List.map_append, hfix]; exact List.sublist_append_left n _) hN hF hm

/-- the character facts behind **the flip is not a narrowing under case folding** (finding F16): while the atom `ⱥ`
    normalizes, the haystack's `Ⱥ` is normalized to `A` and folded to `a`; for the atom `ⱥé`, which no longer normalizes
    (`é`), `Ⱥ` is folded to `ⱥ` — so `Ⱥé` matches the new atom and not the old one -/
theorem C07_normalization_flip_witness :
    normChar { delims := [], white := 10, delim := 9, initial := .whitespace, normalize := true, ignoreCase := true, preferPrefix := false } 0x23A = 97 ∧
    normChar { delims := [], white := 10, delim := 9, initial := .whitespace, normalize := false, ignoreCase := true, preferPrefix := false } 0x23A = 0x2C65 ∧
    normalizeLatin 0x2C65 = 0x2C65 ∧ normalizeLatin 0xE9 ≠ 0xE9 := by
  decide +kernel

end NucleoVerif
