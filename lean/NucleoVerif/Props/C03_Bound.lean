import NucleoVerif.Props.C03
/-! # C03 — the scheme's value is linear in the needle length: no wrap-around below 2520 characters

The model computes scores in `Nat`, the code in saturating `u16`.  The scheme evaluated on any alignment of `L` distinct
indices is at most `(16 + B)·L + B`, `B` the largest bonus (10 with the default configuration), and so is every
intermediate value, since the running score only grows at matched characters.  Hence for needles of up to 2519
characters the `u16` arithmetic is exact; beyond that the known finding K3 (saturation instead of the exact value) applies. -/
namespace NucleoVerif
open Gen Spec

/-- the largest bonus the scheme hands out -/
def bonusCap (white delim : Nat) : Nat := max (max white delim) 8

theorem specBonus_le (white delim : Nat) (prev cls : CharClass) : specBonus white delim prev cls ≤ bonusCap white delim :=
  DP.specBonus_le_of (Nat.le_trans (Nat.le_max_left _ _) (Nat.le_max_left _ _))
    (Nat.le_trans (Nat.le_max_right _ _) (Nat.le_max_left _ _)) (Nat.le_max_right _ _) prev cls

theorem sMatch_le (white delim : Nat) (s : SSt) (cls : CharClass) (h : s.runBonus ≤ bonusCap white delim) :
    (sMatch white delim s cls).runBonus ≤ bonusCap white delim ∧
    (sMatch white delim s cls).score ≤ s.score + (16 + bonusCap white delim) := by
  have hb := specBonus_le white delim s.prev cls
  unfold sMatch
  simp only
  split
  · have hrb : (if specBonus white delim s.prev cls ≥ 8 ∧ specBonus white delim s.prev cls > s.runBonus
        then specBonus white delim s.prev cls else s.runBonus) ≤ bonusCap white delim :=
      DP.ite_le hb h
    refine ⟨hrb, ?_⟩
    rw [Nat.add_assoc]
    exact Nat.add_le_add_left (Nat.add_le_add_left (Nat.max_le.mpr
      ⟨Nat.max_le.mpr ⟨hb, hrb⟩, Nat.le_trans (by decide) (Nat.le_max_right _ 8)⟩) 16) _
  · exact ⟨hb, by rw [Nat.add_assoc]; exact Nat.add_le_add_left (Nat.add_le_add_left hb 16) _⟩

theorem countP_ge_succ (is : List Nat) (hnd : is.Nodup) (col : Nat) (hm : col ∈ is) :
    is.countP (fun i => decide (col ≤ i)) = is.countP (fun i => decide (col + 1 ≤ i)) + 1 := by
  induction is with
  | nil => cases hm
  | cons a t ih =>
    obtain ⟨hnot, hnd'⟩ := List.nodup_cons.mp hnd
    by_cases ha : a = col
    · -- no other occurrence of `col`: on `t` the two counts agree
      subst ha
      have ht : t.countP (fun i => decide (a ≤ i)) = t.countP (fun i => decide (a + 1 ≤ i)) := by
        apply List.countP_congr
        intro x hx
        have : x ≠ a := fun e => hnot (e ▸ hx)
        simp only [decide_eq_true_eq]
        omega
      rw [List.countP_cons_of_pos (by simp), List.countP_cons_of_neg (by simp), ht]
    · have := ih hnd' ((List.mem_cons.mp hm).resolve_left (Ne.symm ha))
      by_cases h1 : col ≤ a
      · rw [List.countP_cons_of_pos (by simpa using h1), List.countP_cons_of_pos (by simp; omega), this]
      · rw [List.countP_cons_of_neg (by simpa using h1), List.countP_cons_of_neg (by simp; omega), this]

/-- One column of the walk.  With `k` characters matched so far the score is at most `(16 + cap)·k + cap`; a matched
    column raises `k` and uses up one of the indices still ahead, a skipped column changes neither. -/
theorem sWalk_step (white delim : Nat) (is : List Nat) (hnd : is.Nodup) (s : SSt) (cls : CharClass) (col k : Nat)
    (h1 : s.runBonus ≤ bonusCap white delim) (h2 : s.score ≤ (16 + bonusCap white delim) * k + bonusCap white delim) :
    ∃ k', (if is.contains col then sMatch white delim s cls else sSkip s cls).runBonus ≤ bonusCap white delim ∧
      (if is.contains col then sMatch white delim s cls else sSkip s cls).score ≤ (16 + bonusCap white delim) * k' + bonusCap white delim ∧
      k' + is.countP (fun i => decide (col + 1 ≤ i)) ≤ k + is.countP (fun i => decide (col ≤ i)) := by
  by_cases hc : is.contains col = true
  · obtain ⟨m1, m2⟩ := sMatch_le white delim s cls h1
    rw [if_pos hc]
    refine ⟨k + 1, m1, ?_, ?_⟩
    · rw [Nat.mul_succ]; omega
    · rw [countP_ge_succ is hnd col (by simpa using hc)]; omega
  · rw [if_neg hc]
    exact ⟨k, h1, Nat.le_trans (Nat.sub_le _ _) h2,
      Nat.add_le_add_left (List.countP_mono_left fun x _ hx => by simp only [decide_eq_true_eq] at hx ⊢; omega) k⟩

theorem schemeBound_mono (B : Nat) {a b : Nat} (h : a ≤ b) : (16 + B) * a + B ≤ (16 + B) * b + B :=
  Nat.add_le_add_right (Nat.mul_le_mul_left _ h) B

theorem sWalk_bound (white delim : Nat) (cls : Nat → CharClass) (is : List Nat) (hnd : is.Nodup) :
    ∀ (cs : List Nat) (s : SSt) (col k : Nat), s.runBonus ≤ bonusCap white delim →
      s.score ≤ (16 + bonusCap white delim) * k + bonusCap white delim →
      (sWalk white delim cls is s col cs).score ≤
        (16 + bonusCap white delim) * (k + is.countP (fun i => decide (col ≤ i))) + bonusCap white delim := by
  intro cs
  induction cs with
  | nil => intro s col k _ h2; exact Nat.le_trans h2 (schemeBound_mono _ (Nat.le_add_right _ _))
  | cons c cs ih =>
    intro s col k h1 h2
    obtain ⟨k', s1, s2, hk⟩ := sWalk_step white delim is hnd s (cls c) col k h1 h2
    exact Nat.le_trans (ih _ (col + 1) k' s1 s2) (schemeBound_mono _ hk)

theorem NoSat_of_bound (white delim : Nat) (cls : Nat → CharClass) (is : List Nat) (hnd : is.Nodup) :
    ∀ (cs : List Nat) (s : SSt) (col k : Nat), s.runBonus ≤ bonusCap white delim →
      s.score ≤ (16 + bonusCap white delim) * k + bonusCap white delim →
      (16 + bonusCap white delim) * (k + is.countP (fun i => decide (col ≤ i))) + bonusCap white delim ≤ 65535 →
      NoSat white delim cls is s col cs := by
  intro cs
  induction cs with
  | nil => intro _ _ _ _ _ _; trivial
  | cons c cs ih =>
    intro s col k h1 h2 htot
    obtain ⟨k', s1, s2, hk⟩ := sWalk_step white delim is hnd s (cls c) col k h1 h2
    have htot' := Nat.le_trans (schemeBound_mono _ hk) htot
    exact ⟨Nat.le_trans s2 (Nat.le_trans (schemeBound_mono _ (Nat.le_add_right _ _)) htot'), ih _ (col + 1) k' s1 s2 htot'⟩

theorem sInit_bound (white delim : Nat) (prev cls : CharClass) (first : Nat) (tl : List Nat) :
    (sInit white delim prev cls).runBonus ≤ bonusCap white delim ∧
    (sInit white delim prev cls).score ≤ (16 + bonusCap white delim) * 1 + bonusCap white delim ∧
    1 + (first :: tl).countP (fun i => decide (first + 1 ≤ i)) ≤ (first :: tl).length := by
  have hb := specBonus_le white delim prev cls
  refine ⟨hb, ?_, ?_⟩
  · show 16 + 2 * specBonus white delim prev cls ≤ _
    omega
  · rw [List.countP_cons_of_neg (by simp), List.length_cons, Nat.add_comm]
    exact Nat.succ_le_succ List.countP_le_length

theorem C03_scheme_bound (cfg : Cfg) (ext : Ext) (h : List Nat) (is : List Nat) (hnd : is.Nodup) :
    alignScore cfg ext h is ≤ (16 + bonusCap cfg.white cfg.delim) * is.length + bonusCap cfg.white cfg.delim := by
  unfold alignScore
  cases is with
  | nil => exact Nat.zero_le _
  | cons first tl =>
    simp only
    cases h.drop first with
    | nil => exact Nat.zero_le _
    | cons c0 rest =>
      obtain ⟨i1, i2, i3⟩ := sInit_bound cfg.white cfg.delim
        (if first = 0 then cfg.initial else (h[first - 1]?.map (charClass cfg ext)).getD cfg.initial)
        (charClass cfg ext c0) first tl
      exact Nat.le_trans (sWalk_bound cfg.white cfg.delim (charClass cfg ext) (first :: tl) hnd _ _ (first + 1) 1 i1 i2)
        (schemeBound_mono _ i3)

/-- No wrap-around below 2520 characters: with the bonus values of the presets (largest bonus 10) the scheme's value
    on any alignment of at most 2519 distinct indices — and every intermediate value, which is the value on a shorter
    alignment — is below `2^16`. -/
theorem C03_fits_u16 (cfg : Cfg) (ext : Ext) (h : List Nat) (is : List Nat) (hnd : is.Nodup)
    (hw : cfg.white ≤ 10) (hdl : cfg.delim ≤ 10) (hlen : is.length ≤ 2519) :
    alignScore cfg ext h is < 65536 := by
  have hb := C03_scheme_bound cfg ext h is hnd
  have hB : bonusCap cfg.white cfg.delim ≤ 10 := Nat.max_le.mpr ⟨Nat.max_le.mpr ⟨hw, hdl⟩, by decide⟩
  generalize bonusCap cfg.white cfg.delim = B at hb hB
  have : (16 + B) * is.length ≤ 26 * 2519 := Nat.mul_le_mul (by omega) hlen
  omega

theorem alignNoSat_of_short (cfg : Cfg) (ext : Ext) (h : List Nat) (is : List Nat) (hnd : is.Nodup)
    (hw : cfg.white ≤ 10) (hdl : cfg.delim ≤ 10) (hlen : is.length ≤ 2519) : alignNoSat cfg ext h is := by
  unfold alignNoSat
  cases is with
  | nil => trivial
  | cons first tl =>
    simp only
    cases h.drop first with
    | nil => trivial
    | cons c0 rest =>
      obtain ⟨i1, i2, i3⟩ := sInit_bound cfg.white cfg.delim
        (if first = 0 then cfg.initial else (h[first - 1]?.map (charClass cfg ext)).getD cfg.initial)
        (charClass cfg ext c0) first tl
      refine NoSat_of_bound cfg.white cfg.delim (charClass cfg ext) (first :: tl) hnd _ _ (first + 1) 1 i1 i2 ?_
      have hB : bonusCap cfg.white cfg.delim ≤ 10 := Nat.max_le.mpr ⟨Nat.max_le.mpr ⟨hw, hdl⟩, by decide⟩
      refine Nat.le_trans (schemeBound_mono _ (Nat.le_trans i3 hlen)) ?_
      exact Nat.le_trans (Nat.add_le_add (Nat.mul_le_mul_right 2519 (Nat.add_le_add_left hB 16)) hB) (by decide)

/-- for at most 2519 reported indices the saturation hypothesis of `C03_calculateScore_eq_alignScore` holds by itself -/
theorem C03_calculateScore_eq_alignScore_short (cfg : Cfg) (ext : Ext) (hrep : Rep) (h : List Nat) (n0 : Nat) (nrest : List Nat)
    (start end_ : Nat) (hse : start < end_) (he : end_ ≤ h.length)
    (hw : cfg.white ≤ 10) (hd : cfg.delim ≤ 10) (hpp : cfg.preferPrefix = false)
    (htight : ((calculateScore cfg ext hrep h (n0 :: nrest) start end_).2.getLast?.getD start) + 1 = end_)
    (hlen : (calculateScore cfg ext hrep h (n0 :: nrest) start end_).2.length ≤ 2519) :
    (calculateScore cfg ext hrep h (n0 :: nrest) start end_).1 =
      alignScore cfg ext h (calculateScore cfg ext hrep h (n0 :: nrest) start end_).2 := by
  have hpw := (C02_calculateScore_indices cfg ext hrep h (n0 :: nrest) start end_ hse he).1
  have hnd : (calculateScore cfg ext hrep h (n0 :: nrest) start end_).2.Nodup := hpw.imp (fun hab => Nat.ne_of_lt hab)
  exact C03_calculateScore_eq_alignScore cfg ext hrep h n0 nrest start end_ hse he hw hd hpp htight
    (alignNoSat_of_short cfg ext h _ hnd hw hd hlen)

end NucleoVerif
