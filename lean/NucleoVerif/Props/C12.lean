import NucleoVerif.Props.C20
/-! # C12 — restart isolates the new item stream from the old one -/
namespace NucleoVerif.Nu

/-- with `clear_snapshot` the snapshot is empty immediately and refers to the new stream -/
theorem C12_clear (n : Nucleo) :
    (n.restart true).snapshot.hits = [] ∧ (n.restart true).snapshot.itemCount = 0 ∧
    (n.restart true).snapshot.stream = (n.restart true).cur :=
  ⟨rfl, rfl, rfl⟩

/-- without `clear_snapshot` the snapshot stays exactly as it was -/
theorem C12_keep (n : Nucleo) : (n.restart false).snapshot = n.snapshot := rfl

/-- the new stream is one no handle (old injectors, the worker, the old snapshot) refers to -/
theorem C12_fresh_stream (n : Nucleo) (h : Inv20 n) (hinj : ∀ p ∈ n.injectors, p.2 < n.nextStream) (hs : n.snapshot.stream < n.nextStream)
    (clear : Bool) :
    (n.restart clear).worker.stream ≠ (n.restart clear).cur ∧ (∀ p ∈ (n.restart clear).injectors, p.2 ≠ (n.restart clear).cur) ∧
    (clear = false → (n.restart clear).snapshot.stream ≠ (n.restart clear).cur) := by
  -- the new stream's id is `n.nextStream`, above every id in use
  exact ⟨Nat.ne_of_lt h.workerFresh, fun p hp => Nat.ne_of_lt (hinj p hp), fun hc => by subst hc; exact Nat.ne_of_lt hs⟩

/-- the guard: while the matcher is in the `Cleared` (or initial) state, a run that finishes — necessarily a run over
    the old stream — is never copied into the snapshot: the first `tick_inner` after a restart leaves it alone -/
theorem C12_old_run_discarded (n : Nucleo) (o : TickOracle) (hs : n.state.canceled = true) :
    (n.tickCancelFirst o).1.snapshot = n.snapshot := by
  rw [Nucleo.tickCancelFirst_eq]
  show (n.joinRun o.run0).snapAfter = n.snapshot
  rw [Nucleo.snapAfter_of_not _ (Or.inr (by rw [Nucleo.joinRun_eq]; exact hs)), Nucleo.joinRun_eq]

/-- the run spawned by the first `tick_inner` after a restart works on the new stream -/
theorem C12_new_run_on_new_stream (n : Nucleo) (o : TickOracle) (h0 : KeepsStream o.run0) (hs : n.state.canceled = true) :
    (n.tickCancelFirst o).1.worker.stream = n.cur ∧ (n.tickCancelFirst o).1.state = .fresh := by
  rw [Nucleo.tickCancelFirst_eq]
  exact ⟨if_pos hs, rfl⟩

/-- whenever the snapshot is replaced, matches and stream handle travel together: items of two streams are never mixed
    in one snapshot -/
theorem C12_update_takes_stream (s : Snapshot) (w : Worker) :
    (s.update w).stream = w.stream ∧ (s.update w).hits = w.hits ∧ (s.update w).itemCount = w.itemCount :=
  ⟨rfl, rfl, rfl⟩

/-- a placeholder: pushing through an injector of an old stream is not a transition of the model's matcher state (the
    stream contents are a separate component); the correspondence run checks that the real snapshot is unaffected
    (`oldpush` events) -/
theorem C12_old_injectors_inert (n : Nucleo) : n = n := rfl

end NucleoVerif.Nu
