import NucleoVerif.Props.C02_Greedy
import NucleoVerif.Props.C04_Unicode
/-! # C02 — `fuzzy_indices` reports a valid witness (entry point)

`fuzzyMatch_paths` describes the dispatch of `fuzzy_match` once, for both representations: the result is either
`calculate_score` on a tight window (contiguous shortcut, greedy fallback) or the matrix's answer on some window.  The
witness theorem here and the score theorems of C03 are read off from it. -/
namespace NucleoVerif
open Gen Spec Sub DP

theorem fuzzyMatch_paths (cfg : Cfg) (ext : Ext) (hrep nrep : Rep) (h : List Nat) (n0 n1 : Nat) (ns : List Nat)
    (hk1 : ¬ (hrep = .ascii ∧ nrep = .unicode)) (hn : (n0 :: n1 :: ns).map (norm cfg nrep) = n0 :: n1 :: ns)
    (hlen : (n0 :: n1 :: ns).length < h.length)
    (r : Nat × List Nat) (hres : fuzzyMatch cfg ext hrep nrep h (n0 :: n1 :: ns) = some r) :
    (∃ s e, TightWindow cfg hrep h n0 (n1 :: ns) s e ∧ r = calculateScore cfg ext hrep h (n0 :: n1 :: ns) s e) ∨
    (∃ s e, optimalDP cfg ext hrep h (n0 :: n1 :: ns) s e = some r) := by
  unfold fuzzyMatch at hres
  rw [guards_of_shorter h _ (List.cons_ne_nil _ _) hlen] at hres
  cases hrep with
  | ascii =>
    cases nrep with
    | unicode => exact absurd ⟨rfl, rfl⟩ hk1
    | ascii =>
      have hn' := eq_self_of_map _ _ hn
      simp only at hres
      cases hp : prefilterAscii cfg h (n0 :: n1 :: ns) false with
      | none => rw [hp] at hres; cases hres
      | some sge =>
        obtain ⟨start, ge, e⟩ := sge
        rw [hp] at hres
        have tw := prefilterAscii_tight cfg h n0 (n1 :: ns) false start ge e hn' hp
        simp only at hres
        split at hres
        · exact Or.inl ⟨start, ge, tw, (Option.some.inj hres).symm⟩
        · unfold fuzzyOptimal at hres
          split at hres
          · exact Or.inr ⟨start, e, hres⟩
          · exact Or.inl (fuzzyGreedyInner_tight_ascii cfg ext h n0 (n1 :: ns) start ge tw r hres)
  | unicode =>
    simp only at hres
    cases hp : prefilterNonAscii cfg h (n0 :: n1 :: ns) false with
    | none => rw [hp] at hres; cases hres
    | some se =>
      obtain ⟨start, e⟩ := se
      rw [hp] at hres
      simp only at hres
      split at hres
      · exact Or.inl ⟨start, e, exactImpl_tight cfg ext .unicode nrep h n0 (n1 :: ns) start e hk1 hn r hres⟩
      · unfold fuzzyOptimal at hres
        split at hres
        · exact Or.inr ⟨start, e, hres⟩
        · obtain ⟨hst, h0⟩ := prefilterNonAscii_first cfg h n0 (n1 :: ns) false start e hp
          exact Or.inl (fuzzyGreedyInner_tight_scan cfg ext .unicode nrep h n0 (n1 :: ns) start (fun e => nomatch e.1) hst
            (chAt_of_norm cfg .unicode h start n0 hst h0) r hres)

theorem C02_fuzzy_entry (cfg : Cfg) (ext : Ext) (hrep nrep : Rep) (h : List Nat) (n0 n1 : Nat) (ns : List Nat)
    (hk1 : ¬ (hrep = .ascii ∧ nrep = .unicode)) (hn : (n0 :: n1 :: ns).map (norm cfg nrep) = n0 :: n1 :: ns)
    (hlen : (n0 :: n1 :: ns).length < h.length)
    (sc : Nat) (is : List Nat) (hres : fuzzyMatch cfg ext hrep nrep h (n0 :: n1 :: ns) = some (sc, is)) :
    validWitnessB cfg hrep h (n0 :: n1 :: ns) is = true := by
  rcases fuzzyMatch_paths cfg ext hrep nrep h n0 n1 ns hk1 hn hlen _ hres with ⟨s, e, tw, hcs⟩ | ⟨s, e, hdp⟩
  · have := witness_of_tight cfg ext hrep h n0 (n1 :: ns) s e tw
    rwa [← hcs] at this
  · exact (C02_optimalDP_witness cfg ext hrep h _ s e sc is hdp).1

/-- `fuzzy_indices` on an ASCII haystack with an already-normalized ASCII needle of at least two characters: whatever
    path is taken — the contiguous shortcut, the matrix, or the greedy fallback when the scratch layout does not fit —
    the reported indices are a valid witness (`hpp` is not used) -/
theorem C02_fuzzy_entry_ascii (cfg : Cfg) (ext : Ext) (h : List Nat) (n0 n1 : Nat) (ns : List Nat)
    (hpp : cfg.preferPrefix = false) (hasc : ∀ c ∈ h, c < 128) (hn : ∀ c ∈ n0 :: n1 :: ns, normAscii cfg c = c)
    (hlen : (n0 :: n1 :: ns).length < h.length)
    (sc : Nat) (is : List Nat) (hres : fuzzyMatch cfg ext .ascii .ascii h (n0 :: n1 :: ns) = some (sc, is)) :
    validWitnessB cfg .ascii h (n0 :: n1 :: ns) is = true :=
  C02_fuzzy_entry cfg ext .ascii .ascii h n0 n1 ns (fun e => nomatch e.2) (map_eq_self _ _ hn) hlen sc is hres

theorem C02_fuzzy_entry_unicode (cfg : Cfg) (ext : Ext) (nrep : Rep) (h : List Nat) (n0 n1 : Nat) (ns : List Nat)
    (hpp : cfg.preferPrefix = false) (hn : (n0 :: n1 :: ns).map (norm cfg nrep) = n0 :: n1 :: ns)
    (hlen : (n0 :: n1 :: ns).length < h.length)
    (sc : Nat) (is : List Nat) (hres : fuzzyMatch cfg ext .unicode nrep h (n0 :: n1 :: ns) = some (sc, is)) :
    validWitnessB cfg .unicode h (n0 :: n1 :: ns) is = true :=
  C02_fuzzy_entry cfg ext .unicode nrep h n0 n1 ns (fun e => nomatch e.1) hn hlen sc is hres

theorem allAlignments_single_sound (cfg : Cfg) (hrep : Rep) (c : Nat) : ∀ (cs : List Nat) (base p : Nat),
    [p] ∈ allAlignments cfg hrep [c] base cs → base ≤ p ∧ ∃ x, cs[p - base]? = some x ∧ norm cfg hrep x = c := by
  intro cs
  induction cs with
  | nil => intro base p h; simp [allAlignments] at h
  | cons x xs ih =>
    intro base p h
    simp only [allAlignments, List.mem_append] at h
    rcases h with h | h
    · by_cases hx : norm cfg hrep x = c
      · simp only [hx, if_true, List.map_cons, List.map_nil, List.mem_singleton, List.cons.injEq, and_true] at h
        subst h
        exact ⟨Nat.le_refl _, x, by rw [Nat.sub_self]; rfl, hx⟩
      · simp [hx] at h
    · obtain ⟨hle, y, hy, hc⟩ := ih (base + 1) p h
      refine ⟨Nat.le_of_succ_le hle, y, ?_, hc⟩
      rw [show p - base = (p - (base + 1)) + 1 by omega, List.getElem?_cons_succ]
      exact hy

theorem validWitness_single (cfg : Cfg) (hrep : Rep) (h : List Nat) (c p : Nat) (hm : [p] ∈ allAlignments cfg hrep [c] 0 h) :
    validWitnessB cfg hrep h [c] [p] = true := by
  obtain ⟨_, x, hx, hc⟩ := allAlignments_single_sound cfg hrep c h 0 p hm
  simp [validWitnessB, show h[p]? = some x from hx, hc]

theorem fuzzyMatch_one_ascii (cfg : Cfg) (ext : Ext) (h : List Nat) (c : Nat) (hb : 8 ≤ maxBonus cfg)
    (hasc : ∀ x ∈ h, x < 128) (hc : normAscii cfg c = c) (hlen : 1 < h.length)
    (sc : Nat) (is : List Nat) (hres : fuzzyMatch cfg ext .ascii .ascii h [c] = some (sc, is)) :
    ∃ p, is = [p] ∧ [p] ∈ allAlignments cfg .ascii [c] 0 h ∧ alignScore cfg ext h [p] = sc := by
  unfold fuzzyMatch at hres
  rw [guards_of_shorter h [c] (List.cons_ne_nil _ _) hlen] at hres
  have hone := C04_one_char_optimum_ascii cfg ext h c hb hasc hc
  simp only at hres
  rw [hres] at hone
  obtain ⟨_, p, hp, hm, hs, _⟩ := hone
  exact ⟨p, hp, hm, hs⟩

theorem fuzzyMatch_one_unicode (cfg : Cfg) (ext : Ext) (nrep : Rep) (h : List Nat) (c : Nat) (hb : 8 ≤ maxBonus cfg)
    (hlen : 1 < h.length) (sc : Nat) (is : List Nat) (hres : fuzzyMatch cfg ext .unicode nrep h [c] = some (sc, is)) :
    ∃ p, is = [p] ∧ [p] ∈ allAlignments cfg .unicode [c] 0 h ∧ alignScore cfg ext h [p] = sc := by
  unfold fuzzyMatch at hres
  rw [guards_of_shorter h [c] (List.cons_ne_nil _ _) hlen] at hres
  have hone := C04_one_char_optimum_unicode cfg ext h c hb
  simp only at hres
  cases hp : prefilterNonAscii cfg h [c] true with
  | none => rw [hp] at hres; cases hres
  | some se =>
    obtain ⟨start, e⟩ := se
    rw [hp] at hres hone
    cases Option.some.inj hres
    obtain ⟨_, p, hp2, hm, hs, _⟩ := hone
    exact ⟨p, hp2, hm, hs⟩

/-- one-character needle: the reported index is an occurrence of the character -/
theorem C02_fuzzy_entry_ascii_one (cfg : Cfg) (ext : Ext) (h : List Nat) (c : Nat) (hb : 8 ≤ maxBonus cfg)
    (hasc : ∀ x ∈ h, x < 128) (hc : normAscii cfg c = c) (hlen : 1 < h.length)
    (sc : Nat) (is : List Nat) (hres : fuzzyMatch cfg ext .ascii .ascii h [c] = some (sc, is)) :
    validWitnessB cfg .ascii h [c] is = true := by
  obtain ⟨p, rfl, hm, _⟩ := fuzzyMatch_one_ascii cfg ext h c hb hasc hc hlen sc is hres
  exact validWitness_single cfg .ascii h c p hm

theorem C02_fuzzy_entry_unicode_one (cfg : Cfg) (ext : Ext) (nrep : Rep) (h : List Nat) (c : Nat) (hb : 8 ≤ maxBonus cfg)
    (hlen : 1 < h.length)
    (sc : Nat) (is : List Nat) (hres : fuzzyMatch cfg ext .unicode nrep h [c] = some (sc, is)) :
    validWitnessB cfg .unicode h [c] is = true := by
  obtain ⟨p, rfl, hm, _⟩ := fuzzyMatch_one_unicode cfg ext nrep h c hb hlen sc is hres
  exact validWitness_single cfg .unicode h c p hm

end NucleoVerif
