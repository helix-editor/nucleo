import NucleoVerif.Props.C02
/-! # C03 — the score is the fzf scheme applied to the reported alignment

The specification (`Spec.alignScore`, `Spec.specBonus`, …) is written with the documented
literal numbers; the model uses the constants extracted from `score.rs` / `config.rs` (`Gen`). -/
namespace NucleoVerif
open Gen Spec

/-- the constants in the source are the documented ones -/
theorem C03_consts_documented :
    SCORE_MATCH = 16 ∧ PENALTY_GAP_START = 3 ∧ PENALTY_GAP_EXTENSION = 1 ∧ BONUS_BOUNDARY = 8 ∧
    BONUS_NON_WORD = 8 ∧ BONUS_CAMEL123 = 5 ∧ BONUS_CONSECUTIVE = 4 ∧ BONUS_FIRST_CHAR_MULTIPLIER = 2 ∧
    presetDefault_white = 10 ∧ presetDefault_delim = 9 ∧ presetMatchPaths_white = 8 ∧ presetMatchPaths_delim = 9 ∧
    presetSetMatchPaths_white = 8 ∧ presetSetMatchPaths_delim = 9 ∧
    charClassOrder = ["whitespace", "nonWord", "delimiter", "lower", "upper", "letter", "number"] := by
  decide

/-- relation between the model's scheme state and the specification's -/
def StRel (s : St) (t : SSt) : Prop :=
  s.score = t.score ∧ s.prev = t.prev ∧ s.inGap = t.inGap ∧ s.consec = t.inRun ∧ (s.consec = true → s.firstBonus = t.runBonus)

theorem stInit_rel (cfg : Cfg) (prev cls : CharClass) :
    StRel (stInit cfg prev cls) (sInit cfg.white cfg.delim prev cls) := by
  simp [StRel, stInit, sInit, DP.bonusFor_eq_spec, SCORE_MATCH, BONUS_FIRST_CHAR_MULTIPLIER, Nat.mul_comm]

theorem sat16_of_le {x : Nat} (h : x ≤ 65535) : sat16 x = x := Nat.min_eq_left h

/-- a matching step keeps the relation as long as the `u16` accumulator does not saturate -/
theorem stepMatch_rel (cfg : Cfg) (s : St) (t : SSt) (cls : CharClass) (h : StRel s t)
    (hs : (sMatch cfg.white cfg.delim t cls).score ≤ 65535) :
    StRel (stepMatch cfg s cls) (sMatch cfg.white cfg.delim t cls) := by
  obtain ⟨h1, h2, h3, h4, h5⟩ := h
  unfold stepMatch sMatch at *
  rw [DP.bonusFor_eq_spec, h2]
  generalize specBonus cfg.white cfg.delim t.prev cls = b at *
  by_cases hc : s.consec = true
  · have hr : t.inRun = true := by rw [← h4]; exact hc
    have hf := h5 hc
    simp only [hc, hr, if_true, hf, BONUS_BOUNDARY, BONUS_CONSECUTIVE, SCORE_MATCH, h1] at hs ⊢
    refine ⟨?_, rfl, rfl, rfl, fun _ => rfl⟩
    show sat16 _ = _
    rw [← Nat.add_assoc, sat16_of_le hs]
  · have hc' : s.consec = false := by simpa using hc
    have hr : t.inRun = false := by rw [← h4]; exact hc'
    simp only [hc', hr, Bool.false_eq_true, if_false, SCORE_MATCH, h1] at hs ⊢
    refine ⟨?_, rfl, rfl, rfl, fun _ => rfl⟩
    show sat16 _ = _
    rw [← Nat.add_assoc, sat16_of_le hs]

theorem stepSkip_rel (s : St) (t : SSt) (cls : CharClass) (h : StRel s t) :
    StRel (stepSkip s cls) (sSkip t cls) := by
  obtain ⟨h1, h2, h3, h4, h5⟩ := h
  simp [StRel, stepSkip, sSkip, h1, h3, PENALTY_GAP_EXTENSION, PENALTY_GAP_START]

/-- all intermediate values of the specification's running score stay inside the `u16` range -/
def NoSat (white delim : Nat) (cls : Nat → CharClass) (is : List Nat) : SSt → Nat → List Nat → Prop
  | _, _, [] => True
  | s, col, c :: cs =>
    let s' := if is.contains col then sMatch white delim s (cls c) else sSkip s (cls c)
    s'.score ≤ 65535 ∧ NoSat white delim cls is s' (col + 1) cs

/-- The loop of `calculate_score` computes the scheme on the alignment it records: the model's state tracks the
    specification's state column by column, where "matched" is decided by membership in the *final* index list. -/
theorem csLoop_rel (cfg : Cfg) (ext : Ext) (hrep : Rep) :
    ∀ (cs : List Nat) (l : CsLoop) (pos : Nat) (t : SSt) (F : List Nat),
      StRel l.st t → (∀ x ∈ l.idxRev, x < pos) →
      F = (csLoop cfg ext hrep l pos cs).idxRev →
      NoSat cfg.white cfg.delim (charClass cfg ext) F.reverse t pos cs →
      StRel (csLoop cfg ext hrep l pos cs).st (sWalk cfg.white cfg.delim (charClass cfg ext) F.reverse t pos cs) := by
  intro cs
  induction cs with
  | nil => intro l pos t F h _ _ _; exact h
  | cons c cs ih =>
    intro l pos t F hrel hlt hF hsat
    rw [csLoop] at hF ⊢
    rw [sWalk]
    rw [NoSat] at hsat
    -- `pos` is in the final list iff this step pushed it: later steps push later positions
    obtain ⟨new, hnew, hb, _⟩ := csLoop_idx_new cfg ext hrep cs (csStep cfg ext hrep l pos c) (pos + 1)
    have hmem : F.reverse.contains pos = decide (pos ∈ (csStep cfg ext hrep l pos c).idxRev) := by
      rw [List.contains_reverse, List.contains_eq_mem, hF, hnew, decide_eq_decide, List.mem_append]
      exact or_iff_right fun hx => Nat.lt_irrefl _ (hb pos hx).1
    rcases csStep_cases cfg ext hrep l pos c with ⟨hst, hidx⟩ | ⟨hst, hidx⟩
    · rw [hidx, decide_eq_true List.mem_cons_self] at hmem
      rw [hmem, if_pos rfl] at hsat ⊢
      refine ih _ (pos + 1) _ F (hst ▸ stepMatch_rel cfg l.st t _ hrel hsat.1) (fun x hx => ?_) hF hsat.2
      rw [hidx] at hx
      rcases List.mem_cons.mp hx with rfl | hx
      · exact Nat.lt_succ_self _
      · exact Nat.lt_succ_of_lt (hlt x hx)
    · rw [hidx, decide_eq_false fun hx => Nat.lt_irrefl _ (hlt pos hx)] at hmem
      rw [hmem, if_neg Bool.false_ne_true] at hsat ⊢
      exact ih _ (pos + 1) _ F (hst ▸ stepSkip_rel l.st t _ hrel) (fun x hx => Nat.lt_succ_of_lt (hlt x (hidx ▸ hx))) hF hsat.2

theorem NoSat_final (white delim : Nat) (cls : Nat → CharClass) (is : List Nat) :
    ∀ (cs : List Nat) (s : SSt) (col : Nat), s.score ≤ 65535 → NoSat white delim cls is s col cs →
      (sWalk white delim cls is s col cs).score ≤ 65535 := by
  intro cs
  induction cs with
  | nil => intro s col h _; simpa [sWalk] using h
  | cons c cs ih =>
    intro s col _ hn
    simp only [NoSat] at hn
    simp only [sWalk]
    exact ih _ _ hn.1 hn.2

/-- "the `u16` accumulator never saturates while the scheme is applied to alignment `is`" -/
def alignNoSat (cfg : Cfg) (ext : Ext) (h : List Nat) (is : List Nat) : Prop :=
  match is with
  | [] => True
  | first :: _ =>
    let last := is.getLast?.getD first
    let cls := charClass cfg ext
    let prev := if first = 0 then cfg.initial else (h[first - 1]?.map cls).getD cfg.initial
    match h.drop first with
    | [] => True
    | c0 :: rest =>
      NoSat cfg.white cfg.delim cls is (sInit cfg.white cfg.delim prev (cls c0)) (first + 1) (rest.take (last - first))

theorem alignNoSat_cons (cfg : Cfg) (ext : Ext) (h : List Nat) (first : Nat) (t : List Nat) (hf : first < h.length) :
    alignNoSat cfg ext h (first :: t) =
      NoSat cfg.white cfg.delim (charClass cfg ext) (first :: t)
        (sInit cfg.white cfg.delim (prevClassAt cfg ext h first) (charClass cfg ext h[first])) (first + 1)
        ((h.drop (first + 1)).take ((first :: t).getLast?.getD first - first)) := by
  rw [alignNoSat, List.drop_eq_getElem_cons hf, ← DP.pcls_eq_prevClassAt]
  rfl

/-- `calculate_score` returns exactly the fzf scheme's value of the alignment it reports — for bonus constants ≤ 10
    (which all presets satisfy) and a window `[start, end)` that ends at the last matched character (every call site
    passes such a window), with prefix preference off, as long as the `u16` accumulator does not saturate (the
    saturated case is the known finding K3; `hw` and `hd` only serve to keep the initial value below `2^16`). -/
theorem C03_calculateScore_eq_alignScore (cfg : Cfg) (ext : Ext) (hrep : Rep) (h : List Nat) (n0 : Nat) (nrest : List Nat)
    (start end_ : Nat) (hse : start < end_) (he : end_ ≤ h.length)
    (hw : cfg.white ≤ 10) (hd : cfg.delim ≤ 10) (hpp : cfg.preferPrefix = false)
    (htight : ((calculateScore cfg ext hrep h (n0 :: nrest) start end_).2.getLast?.getD start) + 1 = end_)
    (hns : alignNoSat cfg ext h (calculateScore cfg ext hrep h (n0 :: nrest) start end_).2) :
    (calculateScore cfg ext hrep h (n0 :: nrest) start end_).1 =
      alignScore cfg ext h (calculateScore cfg ext hrep h (n0 :: nrest) start end_).2 := by
  have hs : start < h.length := Nat.lt_of_lt_of_le hse he
  rw [calculateScore_cons cfg ext hrep h n0 nrest start end_ hs] at htight hns ⊢
  obtain ⟨new, hrev, _⟩ := csRun_idx cfg ext hrep h n0 nrest h[start] (h.drop (start + 1)) start end_ hse
  -- the specification walks from `start + 1` to the last index, the loop to `end - 1`: the same characters
  have hcount : (start :: new).getLast?.getD start - start = end_ - (start + 1) := by
    simp only [hrev] at htight; rw [← htight, Nat.add_sub_add_right]
  simp only [hrev, DP.alignScore_cons cfg ext h start new hs, alignNoSat_cons cfg ext h start new hs, hcount] at hns ⊢
  rw [← hrev] at hns ⊢
  have rel := csLoop_rel cfg ext hrep _ _ (start + 1) _ _ (stInit_rel cfg _ _)
    (fun x hx => by rw [List.mem_singleton.mp hx]; exact Nat.lt_succ_self _) rfl hns
  have hinit : ∀ prev cls, (sInit cfg.white cfg.delim prev cls).score ≤ 65535 := fun prev cls =>
    show 16 + 2 * specBonus cfg.white cfg.delim prev cls ≤ 65535 from
    Nat.le_trans (Nat.add_le_add_left (Nat.mul_le_mul_left 2 (DP.specBonus_le_of hw hd (by decide) prev cls)) 16) (by decide)
  have hfin := NoSat_final _ _ _ _ _ _ _ (hinit _ _) hns
  have hp0 : prefixBonusCs cfg start = 0 := by rw [prefixBonusCs, hpp]; rfl
  rw [hp0, Nat.add_zero, csRun, rel.1]
  exact sat16_of_le hfin

/-- the hypotheses of `C03_calculateScore_eq_alignScore` are satisfiable: "ab" in "axb" (one gap) -/
example :
    let cfg : Cfg := { delims := [47], white := 10, delim := 9, initial := .whitespace, normalize := false, ignoreCase := false, preferPrefix := false }
    let ext : Ext := fun _ => default
    ((calculateScore cfg ext .ascii [97, 120, 98] [97, 98] 0 3).2.getLast?.getD 0) + 1 = 3 ∧
    (calculateScore cfg ext .ascii [97, 120, 98] [97, 98] 0 3) = (16 + 2 * 10 - 3 + 16, [0, 2]) := by
  decide

/-- The recurrence returns the scheme's value of the alignment it reports, prefix preference off. -/
theorem C03_optimalDP_eq_alignScore (cfg : Cfg) (ext : Ext) (hrep : Rep) (h n : List Nat) (start end_ : Nat)
    (hpp : cfg.preferPrefix = false) (sc : Nat) (path : List Nat)
    (hres : optimalDP cfg ext hrep h n start end_ = some (sc, path)) :
    sc = alignScore cfg ext h path :=
  (DP.optimalDP_eq_alignScore cfg ext hrep h n start end_ hpp sc path hres).1

/-- the hypotheses are satisfiable and the statement is not trivial: "ab" in "a/xb" — the recurrence reports the
    alignment [0, 3] with the scheme's value 16 + 2·10 − 3 − 1 + 16 -/
example :
    let cfg : Cfg := { delims := [47], white := 10, delim := 9, initial := .whitespace, normalize := false, ignoreCase := false, preferPrefix := false }
    optimalDP cfg (fun _ => default) .ascii [97, 47, 120, 98] [97, 98] 0 4 = some (16 + 2 * 10 - 3 - 1 + 16, [0, 3]) := by
  decide

end NucleoVerif
