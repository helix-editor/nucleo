import NucleoVerif.Lemmas.Entry
import NucleoVerif.Lemmas.Subseq
import NucleoVerif.Lemmas.DPComplete
import NucleoVerif.Lemmas.Scan
/-! # C01 — fuzzy matching decides exactly the normalized-subsequence relation

Each entry point is a chain of guards, a prefilter that cuts a window out of the haystack without losing an embedding
(first occurrence of the first needle character, last occurrence of the last one) and a decider on that window
(contiguous shortcut, matrix path, greedy scan), each of which decides `subseqB` there.  One pair of representations is
excepted: an ASCII-representation haystack with a non-empty code-point needle always answers `None` (known finding K1). -/
namespace NucleoVerif
open Gen Spec DP Sub

/-- the executable decision used by the oracle is the standard sublist relation -/
theorem subseqB_iff (n h : List Nat) : subseqB n h = true ↔ Subseq n h :=
  Sub.subseqB_iff_sublist n h

theorem C01_longer (cfg : Cfg) (ext : Ext) (hr nr : Rep) (h n : List Nat) (hl : n.length > h.length) :
    fuzzyMatch cfg ext hr nr h n = none ∧ fuzzyGreedy cfg ext hr nr h n = none ∧
    ¬ Subseq n (normHay cfg hr h) := by
  refine ⟨if_pos hl, if_pos hl, fun hs => ?_⟩
  have := hs.length_le
  rw [normHay, List.length_map] at this
  omega

theorem C01_empty (cfg : Cfg) (ext : Ext) (hr nr : Rep) (h : List Nat) :
    fuzzyMatch cfg ext hr nr h [] = some (0, []) ∧ fuzzyGreedy cfg ext hr nr h [] = some (0, []) ∧
    Subseq [] (normHay cfg hr h) :=
  ⟨rfl, rfl, List.nil_sublist _⟩

theorem greedyFwd_isSome (cfg : Cfg) (hrep : Rep) (ns cs : List Nat) (k : Nat) :
    (greedyFwd cfg hrep ns cs k).isSome = subseqB ns (cs.map (norm cfg hrep)) := by
  induction cs generalizing ns k with
  | nil => cases ns <;> rfl
  | cons c cs ih =>
    cases ns with
    | nil => rfl
    | cons nc ns =>
      simp only [greedyFwd, List.map_cons, subseqB]
      by_cases e : norm cfg hrep c = nc
      · simp only [e, if_true]
        cases ns with
        | nil => exact (subseqB_nil _).symm
        | cons a as => exact ih (a :: as) (k + 1)
      · rw [if_neg e, if_neg (fun e' => e e'.symm)]
        exact ih (nc :: ns) (k + 1)

/-- the two internal normalization routines agree (C16), so every decider works on the same normalized haystack -/
theorem C01_same_view (cfg : Cfg) (r : Rep) (h : List Nat) (hr : r = .ascii → ∀ c ∈ h, c < 128) :
    h.map (cnorm cfg r) = h.map (norm cfg r) :=
  map_cnorm_eq_map_norm cfg r h

/-- an ASCII text gives the same normalized text in either representation -/
theorem C01_normHay_rep (cfg : Cfg) (h : List Nat) (ha : ∀ c ∈ h, c < 128) :
    normHay cfg .ascii h = normHay cfg .unicode h := by
  apply List.map_congr_left
  intro c hc
  exact C16_norm_rep_independent cfg c (ha c hc)

theorem subseqB_single (c : Nat) (l : List Nat) : subseqB [c] l = decide (c ∈ l) := by
  rw [Bool.eq_iff_iff, decide_eq_true_eq]
  induction l with
  | nil => exact ⟨fun h => Bool.noConfusion h, fun h => absurd h List.not_mem_nil⟩
  | cons b bs ih =>
    rw [subseqB, List.mem_cons]
    by_cases e : c = b
    · rw [if_pos e]; exact ⟨fun _ => Or.inl e, fun _ => subseqB_nil bs⟩
    · rw [if_neg e, ih]; exact ⟨Or.inr, fun h => h.resolve_left e⟩

theorem subseqB_same_length (n l : List Nat) (hl : n.length = l.length) : subseqB n l = (l == n) := by
  rw [Bool.eq_iff_iff, subseqB_iff_sublist, beq_iff_eq]
  exact ⟨fun hs => (hs.eq_of_length hl).symm, fun e => e ▸ List.Sublist.refl _⟩

theorem guards_subseq (cfg : Cfg) (ext : Ext) (hrep nrep : Rep) (h n : List Nat)
    (hk1 : ¬ (hrep = .ascii ∧ nrep = .unicode)) (hn : n.map (norm cfg nrep) = n) (rest : MRes)
    (hrest : n ≠ [] → n.length < h.length → rest.isSome = subseqB n (normHay cfg hrep h)) :
    (if n.length > h.length then none else if n.isEmpty then some (0, []) else
      if n.length = h.length then exactImpl cfg ext hrep nrep h n 0 h.length else rest).isSome =
      subseqB n (normHay cfg hrep h) := by
  refine guards_isSome cfg ext hrep nrep h n hk1 hn _ rest (fun hl => ?_) (fun e => e ▸ subseqB_nil _)
    (fun hq => subseqB_same_length _ _ (by rw [normHay, List.length_map]; exact hq)) hrest
  apply Bool.eq_false_iff.mpr
  intro hs
  have := subseqB_length n _ hs
  rw [normHay, List.length_map] at this
  omega

theorem optimalDP_window (cfg : Cfg) (ext : Ext) (hrep : Rep) (h : List Nat) (n0 : Nat) (ns : List Nat) (start e : Nat) :
    (optimalDP cfg ext hrep h (n0 :: ns) start e).isSome =
      subseqB (n0 :: ns) (((normHay cfg hrep h).drop start).take (e - start)) := by
  rw [optimalDP_isSome, windowCols_map_ch, map_cnorm_eq_map_norm, normHay, List.map_take, List.map_drop]

theorem substring1Ascii_isSome (cfg : Cfg) (ext : Ext) (h : List Nat) (c : Nat) (hc : normAscii cfg c = c) :
    (substring1Ascii cfg ext h c).isSome = decide (c ∈ normHay cfg .ascii h) := by
  have hp := scan1_pos cfg (asciiEq cfg.ignoreCase c) (charClassAscii cfg) h ⟨0, 0, false⟩ cfg.initial 0
    (fun hs => Bool.noConfusion hs)
  have e : (∃ x ∈ h, asciiEq cfg.ignoreCase c x = true) ↔ c ∈ normHay cfg .ascii h := by
    simp only [normHay, List.mem_map, asciiEq_iff cfg c _ hc]; rfl
  rw [← substring1Ascii_go_eq, e] at hp
  unfold substring1Ascii
  simp only
  split
  · next hz => exact (decide_eq_false (fun hm => hp.mpr (Or.inr hm) hz)).symm
  · next hz => exact (decide_eq_true ((hp.mp hz).resolve_left (fun h0 => h0 rfl))).symm

theorem findIdx_normChar (cfg : Cfg) (a : Nat) (l : List Nat) :
    findIdx (fun c => decide (normChar cfg c = a)) l = findIdx (fun x => x == a) (l.map (normChar cfg)) := by
  rw [findIdx_map]; congr 1

theorem subseqB_first_eq (a : Nat) (as : List Nat) (L : List Nat) :
    subseqB (a :: as) L = (match findIdx (fun x => x == a) L with | none => false | some i => subseqB as (L.drop (i + 1))) := by
  have := subseqB_first id (fun x => x == a) a as L (fun x _ => beq_iff_eq)
  rw [List.map_id] at this
  rw [this]
  cases findIdx (fun x => x == a) L with
  | none => rfl
  | some i => simp only [List.map_id]

theorem drop_of_findIdx_eq (a : Nat) (L : List Nat) (i : Nat) (hf : findIdx (fun x => x == a) L = some i) :
    L.drop i = a :: L.drop (i + 1) := by
  obtain ⟨hi, ⟨x, hx1, hx2⟩, -⟩ := findIdx_some _ L i hf
  rw [List.getElem?_eq_getElem hi, Option.some.injEq] at hx1
  rw [List.drop_eq_getElem_cons hi, hx1, beq_iff_eq.mp hx2]

/-- the last needle character's last occurrence bounds the embedding from the right -/
theorem sublist_take_last (ns L : List Nat) (last : Nat) (hl : ns.getLast? = some last) (hs : List.Sublist ns L) :
    ∃ q, findIdx (fun x => x == last) L.reverse = some q ∧ q < L.length ∧ List.Sublist ns (L.take (L.length - q)) := by
  obtain ⟨ms, rfl⟩ := List.getLast?_eq_some_iff.mp hl
  -- read backwards: the first occurrence of `last` in the reversed haystack, then the rest of the reversed needle
  have hb := (subseqB_iff_sublist _ _).mpr hs.reverse
  rw [List.reverse_append, List.reverse_singleton, List.singleton_append, subseqB_first_eq] at hb
  cases hq : findIdx (fun x => x == last) L.reverse with
  | none => rw [hq] at hb; cases hb
  | some q =>
    rw [hq] at hb
    have hql := (findIdx_some _ _ q hq).1
    rw [List.length_reverse] at hql
    refine ⟨q, rfl, hql, ?_⟩
    have hd := drop_of_findIdx_eq last _ q hq
    rw [List.drop_reverse, List.drop_reverse, List.reverse_eq_cons_iff, List.reverse_reverse] at hd
    rw [hd]
    exact ((List.reverse_sublist.mp (List.drop_reverse ▸ (subseqB_iff_sublist _ _).mp hb))).append (List.Sublist.refl _)

theorem subseqB_take_last (ns L : List Nat) (last : Nat) (hl : ns.getLast? = some last) :
    (findIdx (fun x => x == last) L.reverse = none → subseqB ns L = false) ∧
    ∀ p, findIdx (fun x => x == last) L.reverse = some p → subseqB ns L = subseqB ns (L.take (L.length - p)) := by
  refine ⟨fun hp => ?_, fun p hp => ?_⟩
  · apply Bool.eq_false_iff.mpr
    intro hs
    obtain ⟨q, hq, -⟩ := sublist_take_last ns L last hl ((subseqB_iff_sublist _ _).mp hs)
    rw [hp] at hq; cases hq
  · rw [Bool.eq_iff_iff, subseqB_iff_sublist, subseqB_iff_sublist]
    refine ⟨fun hs => ?_, fun hs => hs.trans (List.take_sublist _ _)⟩
    obtain ⟨q, hq, -, hq3⟩ := sublist_take_last ns L last hl hs
    rw [hp, Option.some.injEq] at hq
    exact hq ▸ hq3

/-- The code-point prefilter (`prefilter_non_ascii`, needle of at least two characters): it rejects only
    non-subsequences, and when it accepts, the window `[start, end)` starts at the first occurrence of the first
    needle character, is long enough, lies inside the haystack, and contains an embedding whenever there is one -/
theorem prefilterNonAscii_spec (cfg : Cfg) (h : List Nat) (n0 n1 : Nat) (ns' : List Nat) :
    match prefilterNonAscii cfg h (n0 :: n1 :: ns') false with
    | none => subseqB (n0 :: n1 :: ns') (h.map (normChar cfg)) = false
    | some (start, e) =>
      start + (n0 :: n1 :: ns').length ≤ e ∧ e ≤ h.length ∧
      subseqB (n0 :: n1 :: ns') (h.map (normChar cfg)) =
        subseqB (n0 :: n1 :: ns') (((h.map (normChar cfg)).drop start).take (e - start)) ∧
      subseqB (n0 :: n1 :: ns') (h.map (normChar cfg)) = subseqB (n1 :: ns') ((h.map (normChar cfg)).drop (start + 1)) := by
  have hfit := subseqB_first_fits (normChar cfg) (fun c => decide (normChar cfg c = n0)) n0 (n1 :: ns') h
    (fun x _ => decide_eq_true_iff)
  unfold prefilterNonAscii
  simp only
  cases hf : findIdx (fun c => decide (normChar cfg c = n0)) (h.take (h.length - (n0 :: n1 :: ns').length + 1)) with
  | none => simp only [hf] at hfit; exact hfit
  | some start =>
    simp only [hf, List.map_drop] at hfit
    obtain ⟨hst, h0⟩ := findIdx_take_some _ h start _ hf
    have hd : (h.map (normChar cfg)).drop start = n0 :: (h.map (normChar cfg)).drop (start + 1) := by
      rw [List.drop_eq_getElem_cons (by rw [List.length_map]; exact hst), List.getElem_map, of_decide_eq_true h0]
    generalize hL : h.map (normChar cfg) = L at hfit hd ⊢
    have hLlen : L.length = h.length := by rw [← hL, List.length_map]
    have hlast : (n1 :: ns').getLast? = some ((n0 :: n1 :: ns').getLast?.getD n0) := by
      rw [List.getLast?_cons_cons, List.getLast?_eq_some_getLast (List.cons_ne_nil _ _)]; rfl
    obtain ⟨hnone, hsome⟩ := subseqB_take_last (n1 :: ns') (L.drop (start + 1)) _ hlast
    simp only [Bool.false_eq_true, if_false]
    rw [findIdx_normChar, List.map_reverse, List.map_drop, hL]
    cases hp : findIdx (fun x => x == (n0 :: n1 :: ns').getLast?.getD n0) (L.drop (start + 1)).reverse with
    | none => exact hfit.trans (hnone hp)
    | some p =>
      have hcut := hsome p hp
      have hpl := (findIdx_some _ _ p hp).1
      rw [List.length_reverse] at hpl
      -- `r + 1` characters after `start` up to the last occurrence of the last needle character: the window has `r + 2`
      obtain ⟨r, hr⟩ := Nat.exists_eq_add_of_lt hpl
      have hwin : h.length - p - start = r + 1 + 1 := by rw [List.length_drop] at hr; omega
      rw [hr, Nat.add_assoc, Nat.add_sub_cancel_left] at hcut
      simp only
      rw [hwin, List.length_cons, List.length_cons]
      by_cases hshort : r + 1 + 1 < ns'.length + 1 + 1
      · simp only [hshort, if_true]
        rw [hfit, hcut]
        apply Bool.eq_false_iff.mpr
        intro hs
        have := subseqB_length _ _ hs
        rw [List.length_take, List.length_cons] at this
        exact Nat.not_le_of_lt (Nat.lt_of_add_lt_add_right hshort) (Nat.le_trans this (Nat.min_le_left _ _))
      · simp only [hshort, if_false]
        refine ⟨by omega, Nat.sub_le _ _, ?_, hfit⟩
        rw [hwin, hd, List.take_succ_cons, subseqB, if_pos rfl, ← hcut, hfit]

theorem prefilterNonAscii_greedy (cfg : Cfg) (h : List Nat) (n0 : Nat) (ns : List Nat) :
    (prefilterNonAscii cfg h (n0 :: ns) true = none ∧ subseqB (n0 :: ns) (h.map (normChar cfg)) = false) ∨
    ∃ start, prefilterNonAscii cfg h (n0 :: ns) true = some (start, start + 1) ∧
      subseqB (n0 :: ns) (h.map (normChar cfg)) = subseqB ns ((h.drop (start + 1)).map (normChar cfg)) := by
  have hfit := subseqB_first_fits (normChar cfg) (fun c => decide (normChar cfg c = n0)) n0 ns h (fun x _ => decide_eq_true_iff)
  unfold prefilterNonAscii
  simp only
  cases hf : findIdx (fun c => decide (normChar cfg c = n0)) (h.take (h.length - (n0 :: ns).length + 1)) with
  | none => simp only [hf] at hfit; exact Or.inl ⟨rfl, hfit⟩
  | some start =>
    simp only [hf] at hfit
    simp only [if_true]
    split
    · next hshort =>
      refine Or.inl ⟨rfl, ?_⟩
      rw [hfit]
      apply Bool.eq_false_iff.mpr
      intro hs
      have := subseqB_length _ _ hs
      rw [List.length_map, List.length_drop] at this
      rw [List.length_cons] at hshort
      have hst := (findIdx_take_some _ h start _ hf).1
      omega
    · exact Or.inr ⟨start, rfl, hfit⟩

theorem greedyInner_unicode_isSome (cfg : Cfg) (ext : Ext) (nrep : Rep) (h : List Nat) (n0 : Nat) (ns : List Nat) (start : Nat) :
    (fuzzyGreedyInner cfg ext .unicode nrep h (n0 :: ns) start (start + 1)).isSome =
      subseqB ns ((h.drop (start + 1)).map (normChar cfg)) := by
  unfold fuzzyGreedyInner
  cases ns with
  | nil => exact (subseqB_nil _).symm
  | cons n1 ns' =>
    simp only [reduceCtorEq, false_and, if_false, List.drop_succ_cons, List.drop_zero]
    rw [← show norm cfg .unicode = normChar cfg from rfl, ← greedyFwd_isSome cfg .unicode (n1 :: ns') _ 0]
    cases greedyFwd cfg .unicode (n1 :: ns') (h.drop (start + 1)) 0 <;> rfl

/-- `fuzzy_match` / `fuzzy_indices` succeed exactly when the needle is a subsequence of the normalized haystack — every
    configuration, haystack, and already-normalized needle of any length: the equal-length shortcut, the one-character
    scan, the prefilter, the contiguous shortcut, the matrix path and the greedy fallback all agree. -/
theorem C01_decision (cfg : Cfg) (ext : Ext) (hrep nrep : Rep) (h n : List Nat)
    (hk1 : ¬ (hrep = .ascii ∧ nrep = .unicode)) (hn : n.map (norm cfg nrep) = n) :
    (fuzzyMatch cfg ext hrep nrep h n).isSome = subseqB n (normHay cfg hrep h) := by
  refine guards_subseq cfg ext hrep nrep h n hk1 hn _ (fun hne _ => ?_)
  cases hrep with
  | ascii =>
    cases nrep with
    | unicode => exact absurd ⟨rfl, rfl⟩ hk1
    | ascii =>
      have hn' := eq_self_of_map _ n hn
      match n, hne with
      | [c], _ => exact (substring1Ascii_isSome cfg ext h c (hn' c (List.mem_cons_self ..))).trans (subseqB_single c _).symm
      | n0 :: n1 :: ns', _ =>
        obtain ⟨spec1, spec2⟩ := prefilterAscii_spec cfg h n0 (n1 :: ns') false hn'
        rw [← show h.map (normAscii cfg) = normHay cfg .ascii h from rfl, ← spec1]
        cases hpf : prefilterAscii cfg h (n0 :: n1 :: ns') false with
        | none => rfl
        | some r =>
          obtain ⟨start, ge, e⟩ := r
          obtain ⟨h1, h2, h3, h4, h5⟩ := spec2 start ge e hpf
          show (if _ then some _ else fuzzyOptimal cfg ext .ascii .ascii h _ start ge e).isSome = true
          split
          · rfl
          · unfold fuzzyOptimal
            split
            · -- matrix path: the window `[start, e)` contains the prefilter's embedding in `[start, greedy_end)`
              rw [optimalDP_window cfg ext .ascii h n0 _ start e]
              apply subseqB_of_sublist_hay _ _ _ h5
              rw [normHay, ← List.map_drop, ← List.map_take]
              exact (List.take_sublist_take_left (Nat.sub_le_sub_right h2 start)).map _
            · -- greedy fallback: both representations ASCII, it always answers on the prefiltered window
              rfl
  | unicode =>
    rw [show normHay cfg .unicode h = h.map (normChar cfg) from rfl]
    match n, hne with
    | [n0], _ =>
      -- one character: the prefilter's first occurrence decides
      simp only
      rcases prefilterNonAscii_greedy cfg h n0 [] with ⟨hp, hs⟩ | ⟨start, hp, hs⟩
      · rw [hp, hs]; rfl
      · rw [hp, hs, subseqB_nil]; rfl
    | n0 :: n1 :: ns', _ =>
      simp only
      have spec := prefilterNonAscii_spec cfg h n0 n1 ns'
      cases hpf : prefilterNonAscii cfg h (n0 :: n1 :: ns') false with
      | none => rw [hpf] at spec; rw [spec]; rfl
      | some r =>
        obtain ⟨start, e⟩ := r
        rw [hpf] at spec
        obtain ⟨s1, s2, s3, s4⟩ := spec
        simp only
        split
        · -- contiguous: the window has the needle's length
          next hcl =>
          rw [exactImpl_window cfg ext .unicode nrep h _ _ _ hk1 hn, decide_eq_true hcl, Bool.true_and, s3]
          exact (subseqB_same_length _ _ (by
            rw [List.length_take, List.length_drop, normHay, List.length_map, Nat.min_eq_left (Nat.sub_le_sub_right s2 start)]
            exact hcl)).symm
        · unfold fuzzyOptimal
          split
          · exact (optimalDP_window cfg ext .unicode h n0 _ start e).trans s3.symm
          · rw [s4, ← List.map_drop]
            exact greedyInner_unicode_isSome cfg ext nrep h n0 _ start

theorem C01_decision_ascii (cfg : Cfg) (ext : Ext) (h n : List Nat)
    (hasc : ∀ x ∈ h, x < 128) (hn : ∀ c ∈ n, normAscii cfg c = c) :
    (fuzzyMatch cfg ext .ascii .ascii h n).isSome = subseqB n (normHay cfg .ascii h) :=
  C01_decision cfg ext .ascii .ascii h n (fun e => nomatch e.2) (map_eq_self _ n hn)

theorem C01_decision_unicode (cfg : Cfg) (ext : Ext) (nrep : Rep) (h n : List Nat) (hn : n.map (norm cfg nrep) = n) :
    (fuzzyMatch cfg ext .unicode nrep h n).isSome = subseqB n (normHay cfg .unicode h) :=
  C01_decision cfg ext .unicode nrep h n (fun e => nomatch e.1) hn

/-- the greedy entry points decide the same relation -/
theorem C01_decision_greedy (cfg : Cfg) (ext : Ext) (hrep nrep : Rep) (h n : List Nat)
    (hk1 : ¬ (hrep = .ascii ∧ nrep = .unicode)) (hn : n.map (norm cfg nrep) = n) :
    (fuzzyGreedy cfg ext hrep nrep h n).isSome = subseqB n (normHay cfg hrep h) := by
  refine guards_subseq cfg ext hrep nrep h n hk1 hn _ (fun hne _ => ?_)
  match n, hne with
  | n0 :: ns, _ =>
    cases hrep with
    | ascii =>
      cases nrep with
      | unicode => exact absurd ⟨rfl, rfl⟩ hk1
      | ascii =>
        rw [← show h.map (normAscii cfg) = normHay cfg .ascii h from rfl,
          ← (prefilterAscii_spec cfg h n0 ns true (eq_self_of_map _ _ hn)).1]
        cases hpf : prefilterAscii cfg h (n0 :: ns) true with
        | none => rfl
        | some r =>
          show (if _ then some _ else fuzzyGreedyInner cfg ext .ascii .ascii h _ r.1 r.2.1).isSome = true
          split <;> rfl
    | unicode =>
      rw [show normHay cfg .unicode h = h.map (normChar cfg) from rfl]
      simp only
      rcases prefilterNonAscii_greedy cfg h n0 ns with ⟨hp, hs⟩ | ⟨start, hp, hs⟩
      · rw [hp, hs]; rfl
      · rw [hp, hs]; exact greedyInner_unicode_isSome cfg ext nrep h n0 ns start

theorem C01_decision_ascii_greedy (cfg : Cfg) (ext : Ext) (h n : List Nat) (hn : ∀ c ∈ n, normAscii cfg c = c) :
    (fuzzyGreedy cfg ext .ascii .ascii h n).isSome = subseqB n (normHay cfg .ascii h) :=
  C01_decision_greedy cfg ext .ascii .ascii h n (fun e => nomatch e.2) (map_eq_self _ n hn)

theorem C01_decision_unicode_greedy (cfg : Cfg) (ext : Ext) (nrep : Rep) (h n : List Nat) (hn : n.map (norm cfg nrep) = n) :
    (fuzzyGreedy cfg ext .unicode nrep h n).isSome = subseqB n (normHay cfg .unicode h) :=
  C01_decision_greedy cfg ext .unicode nrep h n (fun e => nomatch e.1) hn

/-- all four entry points agree (the score-only variants are the same functions with `INDICES = false`) -/
theorem C01_entry_points_agree (cfg : Cfg) (ext : Ext) (hrep nrep : Rep) (h n : List Nat)
    (hk1 : ¬ (hrep = .ascii ∧ nrep = .unicode)) (hn : n.map (norm cfg nrep) = n) :
    (fuzzyMatch cfg ext hrep nrep h n).isSome = (fuzzyGreedy cfg ext hrep nrep h n).isSome := by
  rw [C01_decision cfg ext hrep nrep h n hk1 hn, C01_decision_greedy cfg ext hrep nrep h n hk1 hn]

theorem C01_entry_points_agree_ascii (cfg : Cfg) (ext : Ext) (h n : List Nat)
    (hasc : ∀ x ∈ h, x < 128) (hn : ∀ c ∈ n, normAscii cfg c = c) :
    (fuzzyMatch cfg ext .ascii .ascii h n).isSome = (fuzzyGreedy cfg ext .ascii .ascii h n).isSome :=
  C01_entry_points_agree cfg ext .ascii .ascii h n (fun e => nomatch e.2) (map_eq_self _ n hn)

theorem C01_entry_points_agree_unicode (cfg : Cfg) (ext : Ext) (nrep : Rep) (h n : List Nat) (hn : n.map (norm cfg nrep) = n) :
    (fuzzyMatch cfg ext .unicode nrep h n).isSome = (fuzzyGreedy cfg ext .unicode nrep h n).isSome :=
  C01_entry_points_agree cfg ext .unicode nrep h n (fun e => nomatch e.1) hn

/-- the statement is not vacuous: "ab" is found in "aXb" and "ba" is not (default configuration, case folding on) -/
example :
    let cfg : Cfg := { delims := [47], white := 10, delim := 9, initial := .whitespace, normalize := true, ignoreCase := true, preferPrefix := false }
    (fuzzyMatch cfg (fun _ => default) .ascii .ascii [97, 88, 66] [97, 98]).isSome = true ∧
    (fuzzyMatch cfg (fun _ => default) .ascii .ascii [97, 88, 66] [98, 97]).isSome = false := by
  decide

/-- The decision does not depend on the representation: an ASCII text gives the same answer whether haystack and
    needle are held as bytes or as code points (except an ASCII-representation haystack with a code-point needle: K1) -/
theorem C01_representation_independent (cfg : Cfg) (ext : Ext) (nrep : Rep) (h n : List Nat)
    (hasc : ∀ x ∈ h, x < 128) (hn : ∀ c ∈ n, normAscii cfg c = c) (hn' : n.map (norm cfg nrep) = n) :
    (fuzzyMatch cfg ext .ascii .ascii h n).isSome = (fuzzyMatch cfg ext .unicode nrep h n).isSome := by
  rw [C01_decision_ascii cfg ext h n hasc hn, C01_decision_unicode cfg ext nrep h n hn', C01_normHay_rep cfg h hasc]

end NucleoVerif
