import NucleoVerif.Model.Score
import NucleoVerif.Gen.Bonus
/-! # C03 (companion file) — `Config::bonus_for`, translated from the source, is the model's `bonusFor`

`Gen/Bonus.lean` is regenerated on every run from `matcher/src/score.rs` (the guard, the match on the previous class, the
if-chain) and `matcher/src/chars.rs` (the declaration order of `CharClass`, which the derived `PartialOrd` compares by). -/
namespace NucleoVerif
open Gen

theorem C03_translated_bonus_for (cfg : Cfg) (prev cls : CharClass) :
    bonusFor cfg prev cls = Gen.Bonus.bonus_for cfg.white cfg.delim prev.rank cls.rank := by
  cases prev <;> cases cls <;> rfl

end NucleoVerif
