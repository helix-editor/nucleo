import NucleoVerif.Props.C20
/-! # C19 — tick's status tells the truth about the snapshot -/
namespace NucleoVerif.Nu

theorem joinRun_snapAfter_of_idle (n : Nucleo) (run : Worker → Worker) (h : (n.joinRun run).worker.running = false) :
    (n.joinRun run).snapAfter = n.snapshot := by
  rw [Nucleo.snapAfter_of_not _ (Or.inl h), Nucleo.joinRun_eq]

theorem tickPlain_unchanged (n : Nucleo) (o : TickOracle) (h : (n.tickPlain o).2.changed = false) :
    (n.tickPlain o).1.snapshot = n.snapshot := by
  rcases n.tickPlain_shapes o with ⟨_, e⟩ | ⟨_, e⟩ | ⟨_, e⟩
  · rw [e]
  · rw [e] at h ⊢
    exact joinRun_snapAfter_of_idle n o.run0 h
  · rw [e] at h ⊢
    exact joinRun_snapAfter_of_idle n o.run0 h

theorem tickCancelFirst_unchanged (n : Nucleo) (o : TickOracle) (h : (n.tickCancelFirst o).2.changed = false) :
    (n.tickCancelFirst o).1.snapshot = n.snapshot := by
  rw [Nucleo.tickCancelFirst_eq] at h ⊢
  exact joinRun_snapAfter_of_idle n o.run0 h

/-- C19: if `tick` reports `changed = false`, the snapshot (matches, item count, pattern, item stream) is exactly what it
    was before the call — for every lock outcome and every background-run effect -/
theorem C19_changed (n : Nucleo) (o : TickOracle) (h : (n.tick o).2.changed = false) :
    (n.tick o).1.snapshot = n.snapshot := by
  by_cases hc : n.tickCancels = true
  · obtain ⟨e1, _, e3⟩ := n.tick_of_cancels o hc
    rw [e3, Bool.or_eq_false_iff] at h
    rw [e1]
    exact (tickPlain_unchanged _ _ h.2).trans (tickCancelFirst_unchanged _ o h.1)
  · rw [Bool.not_eq_true] at hc
    rw [Nucleo.tick_of_not_cancels n o hc] at h ⊢
    exact tickPlain_unchanged _ o h

/-- `running = false` is only ever reported by a `tick_inner` that held the worker lock and found that
    the reservation counter it read does not exceed the worker's processed-item count -/
theorem C19_running_lock (n : Nucleo) (c : Bool) (st : PStatus) (k : Nat)
    (h : (tickInnerLocked n c st k).2.running = false) : c = false ∧ k ≤ n.worker.itemCount := by
  rw [tickInnerLocked_status] at h
  simpa using h

/-- when a `tick_inner` that held the lock reports `running = false` and a run had finished un-cancelled since the last
    look, the snapshot now is the worker's result -/
theorem C19_running_fresh_result (n : Nucleo) (k : Nat) (hrun : n.worker.running = true) (hnc : n.worker.wasCanceled = false)
    (hf : n.state = .fresh) (h : (tickInnerLocked n false .unchanged k).2.running = false) :
    (tickInnerLocked n false .unchanged k).1.snapshot.itemCount = n.worker.itemCount ∧
    k ≤ (tickInnerLocked n false .unchanged k).1.snapshot.itemCount ∧
    (tickInnerLocked n false .unchanged k).1.snapshot.pattern = n.worker.pattern ∧
    (tickInnerLocked n false .unchanged k).1.snapshot.stream = n.worker.stream := by
  rw [tickInnerLocked_snapshot, n.snapAfter_of_result hrun hnc hf]
  exact ⟨rfl, (C19_running_lock n false .unchanged k h).2, rfl, rfl⟩

structure RunLike (run : Worker → Worker) : Prop where
  running : ∀ w, (run w).running = true
  pattern : ∀ w, (run w).pattern = w.pattern
  stream : ∀ w, (run w).stream = w.stream

def Uncancelled (run : Worker → Worker) : Prop := ∀ w, (run w).wasCanceled = false

/-- the state invariant behind the `running = false` clause -/
structure Inv19 (n : Nucleo) : Prop where
  /-- a finished run that has been looked at leaves the worker marked idle -/
  idle : n.pending = none → n.worker.running = false
  /-- with no run in flight on a live stream, the snapshot is the worker's result -/
  mirror : n.pending = none → n.state = .fresh →
    n.snapshot.itemCount = n.worker.itemCount ∧ n.snapshot.pattern = n.worker.pattern
  /-- an unchanged pattern on a live stream is the pattern the worker was (last) started with -/
  pat : n.status = .unchanged → n.state = .fresh → n.worker.pattern = n.pattern

theorem Inv19.new : Inv19 Nucleo.new := ⟨fun _ => rfl, fun _ => nofun, fun _ => nofun⟩

theorem Inv19.of_eq {n n' : Nucleo} (h : Inv19 n) (e1 : n'.pending = n.pending) (e2 : n'.worker = n.worker)
    (e3 : n'.state = n.state) (e4 : n'.snapshot = n.snapshot) (e5 : n'.status = n.status) (e6 : n'.pattern = n.pattern) :
    Inv19 n' :=
  ⟨by rw [e1, e2]; exact h.idle, by rw [e1, e2, e3, e4]; exact h.mirror, by rw [e2, e3, e5, e6]; exact h.pat⟩

theorem Inv19.restart {n : Nucleo} (h : Inv19 n) (c : Bool) : Inv19 (n.restart c) :=
  ⟨h.idle, fun _ => nofun, fun _ => nofun⟩

theorem Inv19.reparse {n : Nucleo} (h : Inv19 n) (p : Nat) (s : PStatus) (hs : s ≠ .unchanged) : Inv19 (n.reparse p s) :=
  ⟨h.idle, h.mirror, fun hu _ => absurd hu hs⟩

/-- the state a `tick_inner` that holds the lock works on: the run in flight (if any) has been joined -/
structure Joined (m : Nucleo) : Prop where
  noPending : m.pending = none
  /-- either an un-looked-at, un-cancelled result, or an idle worker mirrored by the snapshot (on a live stream) -/
  fresh : m.state = .fresh →
    (m.worker.running = true ∧ m.worker.wasCanceled = false) ∨
    (m.worker.running = false ∧ m.snapshot.itemCount = m.worker.itemCount ∧ m.snapshot.pattern = m.worker.pattern)

theorem joinRun_joined (n : Nucleo) (h : Inv19 n) (run : Worker → Worker) (hr : RunLike run) (hu : Uncancelled run) :
    Joined (n.joinRun run) ∧ (n.joinRun run).worker.pattern = n.worker.pattern := by
  rw [Nucleo.joinRun_eq]
  cases hp : n.pending with
  | none => exact ⟨⟨rfl, fun hf => Or.inr ⟨h.idle hp, h.mirror hp hf⟩⟩, rfl⟩
  | some p => exact ⟨⟨rfl, fun _ => Or.inl ⟨hr.running _, hu _⟩⟩, hr.pattern _⟩

theorem locked_step (m : Nucleo) (k : Nat) (hj : Joined m) (hf : m.state = .fresh) (hp : m.worker.pattern = m.pattern) :
    Inv19 (tickInnerLocked m false .unchanged k).1 ∧
    (tickInnerLocked m false .unchanged k).1.pattern = m.pattern ∧
    ((tickInnerLocked m false .unchanged k).2.running = false →
      (tickInnerLocked m false .unchanged k).1.snapshot.pattern = m.pattern ∧
      k ≤ (tickInnerLocked m false .unchanged k).1.snapshot.itemCount ∧
      (tickInnerLocked m false .unchanged k).1.snapshot.itemCount = (tickInnerLocked m false .unchanged k).1.worker.itemCount) := by
  -- whichever way the lock was found, the snapshot now mirrors the worker
  have hsnap : m.snapAfter.itemCount = m.worker.itemCount ∧ m.snapAfter.pattern = m.worker.pattern := by
    rcases hj.fresh hf with ⟨h1, h2⟩ | ⟨h1, h2⟩
    · rw [m.snapAfter_of_result h1 h2 hf]; exact ⟨rfl, rfl⟩
    · rw [m.snapAfter_of_not (Or.inl h1)]; exact h2
  rcases Nat.lt_or_ge m.worker.itemCount k with hk | hk
  · rw [tickInnerLocked_spawn _ _ _ _ (Or.inr hk)]
    exact ⟨{ idle := nofun, mirror := nofun, pat := fun _ _ => rfl }, rfl, nofun⟩
  · rw [tickInnerLocked_idle _ _ _ hk]
    exact ⟨{ idle := fun _ => rfl, mirror := fun _ _ => hsnap, pat := fun _ _ => hp }, rfl,
      fun _ => ⟨hsnap.2.trans hp, hsnap.1 ▸ hk, hsnap.1⟩⟩

/-- what is assumed of the runs a tick joins: a run that no tick cancelled and no restart followed did not observe the
    cancel flag — the flag is raised only by a cancelling tick (which then waits for the run) and by `restart` (which
    makes the next tick a cancelling one) -/
structure TickEnv (n : Nucleo) (o : TickOracle) : Prop where
  run0 : RunLike o.run0
  run1 : RunLike o.run1
  unc1 : Uncancelled o.run1
  /-- a cancelling tick may well have cancelled `run0`: its first `tick_inner` never copies the result (`Inv19.of_pending`) -/
  unc0 : n.tickCancels = false → Uncancelled o.run0

/-- the counter value read by the `tick_inner` that decides `running` -/
def TickOracle.decidingCount (o : TickOracle) (n : Nucleo) : Nat := if n.tickCancels then o.count2 else o.count1

theorem tickCancelFirst_facts (n : Nucleo) (o : TickOracle) :
    (n.tickCancelFirst o).1.state = .fresh ∧ (n.tickCancelFirst o).1.pending.isSome = true ∧
    (n.tickCancelFirst o).1.worker.pattern = n.pattern ∧ (n.tickCancelFirst o).1.pattern = n.pattern ∧
    (n.tickCancelFirst o).1.status = .unchanged := by
  rw [Nucleo.tickCancelFirst_eq]
  exact ⟨rfl, rfl, rfl, rfl, rfl⟩

/-- the `tick_inner` that decides a tick (the second of a cancelling tick, the only one of a plain tick) -/
theorem deciding_step (n : Nucleo) (h : Inv19 n) (o : TickOracle) (r0 : RunLike o.run0) (u0 : Uncancelled o.run0)
    (hf : n.state = .fresh) (hw : n.worker.pattern = n.pattern) :
    Inv19 (n.tickPlain o).1 ∧ (n.tickPlain o).1.pattern = n.pattern ∧
    ((n.tickPlain o).2.running = false →
      (n.tickPlain o).1.snapshot.pattern = n.pattern ∧ o.count1 ≤ (n.tickPlain o).1.snapshot.itemCount ∧
      (n.tickPlain o).1.snapshot.itemCount = (n.tickPlain o).1.worker.itemCount) := by
  rcases n.tickPlain_cases o with ⟨_, e⟩ | e <;> rw [e]
  · exact ⟨h.of_eq rfl rfl rfl rfl rfl rfl, rfl, nofun⟩
  · have hj := joinRun_joined n h o.run0 r0 u0
    have hfr : (n.joinRun o.run0).state = n.state ∧ (n.joinRun o.run0).pattern = n.pattern := by
      rw [Nucleo.joinRun_eq]; exact ⟨rfl, rfl⟩
    have ls := locked_step (n.joinRun o.run0) o.count1 hj.1 (hfr.1.trans hf) (hj.2.trans (hw.trans hfr.2.symm))
    rw [hfr.2] at ls
    exact ls

theorem Inv19.of_pending {n : Nucleo} (hp : n.pending.isSome = true) (hw : n.worker.pattern = n.pattern) : Inv19 n :=
  have hpn : n.pending ≠ none := fun e => by rw [e] at hp; cases hp
  ⟨fun e => absurd e hpn, fun e => absurd e hpn, fun _ _ => hw⟩

theorem tickSecond_step (n2 : Nucleo) (o : TickOracle) (r1 : RunLike o.run1) (u1 : Uncancelled o.run1)
    (hf : n2.state = .fresh) (hp : n2.pending.isSome = true) (hw : n2.worker.pattern = n2.pattern) :
    Inv19 (n2.tickSecond o).1 ∧ (n2.tickSecond o).1.pattern = n2.pattern ∧
    ((n2.tickSecond o).2.running = false →
      (n2.tickSecond o).1.snapshot.pattern = n2.pattern ∧ o.count2 ≤ (n2.tickSecond o).1.snapshot.itemCount ∧
      (n2.tickSecond o).1.snapshot.itemCount = (n2.tickSecond o).1.worker.itemCount) := by
  rw [Nucleo.tickSecond_eq_tickPlain n2 o hp]
  exact deciding_step n2 (.of_pending hp hw) o.second r1 u1 hf hw

theorem tickPlain_step (n : Nucleo) (h : Inv19 n) (o : TickOracle) (r0 : RunLike o.run0) (u0 : Uncancelled o.run0)
    (hst : n.status = .unchanged) (hf : n.state = .fresh) :
    Inv19 (n.tickPlain o).1 ∧ (n.tickPlain o).1.pattern = n.pattern ∧
    ((n.tickPlain o).2.running = false →
      (n.tickPlain o).1.snapshot.pattern = n.pattern ∧ o.count1 ≤ (n.tickPlain o).1.snapshot.itemCount ∧
      (n.tickPlain o).1.snapshot.itemCount = (n.tickPlain o).1.worker.itemCount) :=
  deciding_step n h o r0 u0 hf (h.pat hst hf)

theorem Inv19.tick {n : Nucleo} (h : Inv19 n) (o : TickOracle) (env : TickEnv n o) :
    Inv19 (n.tick o).1 ∧ (n.tick o).1.pattern = n.pattern ∧
    ((n.tick o).2.running = false →
      (n.tick o).1.snapshot.pattern = n.pattern ∧ o.decidingCount n ≤ (n.tick o).1.snapshot.itemCount ∧
      (n.tick o).1.snapshot.itemCount = (n.tick o).1.worker.itemCount) := by
  unfold TickOracle.decidingCount
  by_cases hc : n.tickCancels = true
  · rw [(n.tick_of_cancels o hc).1, (n.tick_of_cancels o hc).2.1, if_pos hc]
    obtain ⟨f1, f2, f3, f4, f5⟩ := tickCancelFirst_facts ({ n with shouldNotify := false } : Nucleo) o
    have st := deciding_step _ (.of_pending f2 (f3.trans f4.symm)) o.second env.run1 env.unc1 f1 (f3.trans f4.symm)
    rw [f4] at st
    exact st
  · rw [Bool.not_eq_true] at hc
    rw [Nucleo.tick_of_not_cancels n o hc, if_neg (by rw [hc]; nofun)]
    obtain ⟨hst, hf⟩ := n.tickCancels_eq_false_iff.mp hc
    exact tickPlain_step ({ n with shouldNotify := false } : Nucleo) (h.of_eq rfl rfl rfl rfl rfl rfl) o env.run0
      (env.unc0 hc) hst hf

/-- the requirements on the environment, event by event (they depend on the state the event meets) -/
def EvOk19 (n : Nucleo) : Ev → Prop
  | .tick o => TickEnv n o
  | .reparse _ s => s ≠ .unchanged        -- `MultiPattern::reparse` always marks the column as changed
  | _ => True

def okHist : Nucleo → List Ev → Prop
  | _, [] => True
  | n, e :: es => EvOk19 n e ∧ okHist (applyEv n e) es

theorem Inv19.step {n : Nucleo} (h : Inv19 n) (e : Ev) (hok : EvOk19 n e) : Inv19 (applyEv n e) := by
  rcases applyEv_eq n e with ⟨l, e'⟩ | ⟨c, rfl⟩ | ⟨p, s, rfl⟩ | ⟨o, rfl⟩
  · rw [e']; exact h.of_eq rfl rfl rfl rfl rfl rfl
  · exact h.restart c
  · exact h.reparse p s hok
  · exact (h.tick o hok).1

theorem Inv19.history : ∀ (evs : List Ev) (n : Nucleo), Inv19 n → okHist n evs → Inv19 (evs.foldl Nu.applyEv n) :=
  history_induction (fun _ e _ h hok => ⟨h.step e hok.1, hok.2⟩)

/-- C19: after every history of injector(), clone, drop, reparse, restart(true|false) and tick (completing or timing
    out), a tick that reports `running = false` leaves a snapshot that carries the matcher's current pattern and
    accounts for at least as many items as the reservation counter showed when that tick read it (every push that
    completed before the call began had already advanced the counter) -/
theorem C19_running_history (evs : List Ev) (hok : okHist Nucleo.new evs) (o : TickOracle)
    (env : TickEnv (evs.foldl applyEv Nucleo.new) o)
    (h : ((evs.foldl applyEv Nucleo.new).tick o).2.running = false) :
    ((evs.foldl applyEv Nucleo.new).tick o).1.snapshot.pattern = ((evs.foldl applyEv Nucleo.new).tick o).1.pattern ∧
    o.decidingCount (evs.foldl applyEv Nucleo.new) ≤ ((evs.foldl applyEv Nucleo.new).tick o).1.snapshot.itemCount := by
  have inv := Inv19.history evs Nucleo.new Inv19.new hok
  have t := inv.tick o env
  have r := t.2.2 h
  exact ⟨by rw [r.1, t.2.1], r.2.1⟩

variable (score : Nat → Item → Option Nat) (len : Item → Nat)

theorem Worker.run_runLike (st : PStatus) (cl pe : Bool) (o : Obs) :
    RunLike (fun w => (Worker.run score len w st cl pe o).1) :=
  ⟨fun w => (run_control score len w st cl pe o).1, fun w => (run_control score len w st cl pe o).2.1,
   fun w => (run_control score len w st cl pe o).2.2.1⟩

/-- the hypotheses are satisfiable and the conclusion is reached: an injector, a first tick whose run completes in
    time, then a tick that reports `running = false` -/
example :
    let run : Worker → Worker := fun w => { w with running := true, wasCanceled := false }
    let o : TickOracle := { count1 := 0, count2 := 0, lock1 := true, lock2 := true, run0 := run, run1 := run }
    okHist Nucleo.new [.inj 1, .tick o] ∧ TickEnv ([Ev.inj 1, .tick o].foldl applyEv Nucleo.new) o ∧
    (([Ev.inj 1, .tick o].foldl applyEv Nucleo.new).tick o).2.running = false := by
  intro run o
  have rl : RunLike run := ⟨fun _ => rfl, fun _ => rfl, fun _ => rfl⟩
  have env : ∀ n, TickEnv n o := fun n => ⟨rl, rl, fun _ => rfl, fun _ _ => rfl⟩
  exact ⟨⟨trivial, env _, trivial⟩, env _, by decide⟩

end NucleoVerif.Nu
