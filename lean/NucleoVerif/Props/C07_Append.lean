import NucleoVerif.Props.C07
import NucleoVerif.Props.C07_AtomNarrows
import NucleoVerif.Lemmas.Pattern
/-! # C07 (companion file) — appending text changes only the last atom

The splitter works left to right with one bit of state, so every piece of the old text except the last is a piece of the
new text, at the same place: the `Update` shortcut has to be justified for the last atom alone, which is what
`can_append_to` looks at.  `parsePattern_append` is the form `C07_UpdateSound` uses; the file ends with the narrowing of
a fuzzy last atom under unchanged flags. -/
namespace NucleoVerif

/-- the splitter's run over `s`: the pieces it has completed, and its state at the end (`saw_backslash`, the piece being
    collected, reversed) -/
def splitRun : List Nat → Bool → List Nat → List (List Nat) × Bool × List Nat
  | [], saw, cur => ([], saw, cur)
  | c :: cs, saw, cur =>
    if isWs c ∧ !saw then ((cur.reverse :: (splitRun cs saw []).1), (splitRun cs saw []).2)
    else splitRun cs (c = 92) (c :: cur)

theorem patternAtomsGo_append : ∀ (s t : List Nat) (saw : Bool) (cur : List Nat),
    patternAtomsGo (s ++ t) saw cur =
      (splitRun s saw cur).1 ++ patternAtomsGo t (splitRun s saw cur).2.1 (splitRun s saw cur).2.2 := by
  intro s
  induction s with
  | nil => intro t saw cur; simp [splitRun]
  | cons c cs ih =>
    intro t saw cur
    simp only [List.cons_append, patternAtomsGo, splitRun]
    split
    · simp only [List.cons_append]
      rw [ih t saw []]
    · exact ih t (decide (c = 92)) (c :: cur)

theorem patternAtomsGo_eq_run (s : List Nat) (saw : Bool) (cur : List Nat) :
    patternAtomsGo s saw cur = (splitRun s saw cur).1 ++ [(splitRun s saw cur).2.2.reverse] := by
  have := patternAtomsGo_append s [] saw cur
  rw [List.append_nil] at this
  rw [this]; rfl

/-- **the pieces of an appended text**: all pieces of the old text but its last one, then whatever the splitter makes of the
    old last piece continued by the new characters -/
theorem C07_append_pieces (old new : List Nat) :
    patternAtoms (old ++ new) =
      (patternAtoms old).dropLast ++ patternAtomsGo new (splitRun old false []).2.1 (splitRun old false []).2.2 ∧
    (patternAtoms old).getLast? = some (splitRun old false []).2.2.reverse := by
  unfold patternAtoms
  rw [patternAtomsGo_append old new false [], patternAtomsGo_eq_run old false []]
  simp

theorem patternAtoms_append (t s : List Nat) :
    ∃ init r s1 more, patternAtoms t = init ++ [r] ∧ patternAtoms (t ++ s) = init ++ (r ++ s1) :: more ∧
      (∀ c ∈ r, c ∈ t) ∧ ∀ c ∈ s1, c ∈ s := by
  obtain ⟨s1, more, hgo, hs1⟩ := patternAtomsGo_head s (splitRun t false []).2.1 (splitRun t false []).2.2
  have ht : patternAtoms t = (splitRun t false []).1 ++ [(splitRun t false []).2.2.reverse] := patternAtomsGo_eq_run t false []
  refine ⟨_, _, s1, more, ht, ?_, ?_, hs1⟩
  · unfold patternAtoms
    rw [patternAtomsGo_append, hgo]
  · intro c hc
    have hmem : (splitRun t false []).2.2.reverse ∈ patternAtomsGo t false [] := by
      rw [show patternAtomsGo t false [] = patternAtoms t from rfl, ht]
      simp
    rcases patternAtomsGo_mem t false [] _ hmem c hc with h | h
    · cases h
    · exact h

theorem parsePattern_append (seg : Seg) (t s : List Nat) (case : CaseMatching) (norm : Normalization) :
    ∃ (r s1 : List Nat) (more : List Atom),
      parsePattern seg t case norm =
        (((patternAtoms t).dropLast.map (fun raw => parseAtom seg raw case norm)).filter (fun a => !a.needle.isEmpty)) ++
          [parseAtom seg r case norm].filter (fun a => !a.needle.isEmpty) ∧
      parsePattern seg (t ++ s) case norm =
        (((patternAtoms t).dropLast.map (fun raw => parseAtom seg raw case norm)).filter (fun a => !a.needle.isEmpty)) ++
          (parseAtom seg (r ++ s1) case norm :: more).filter (fun a => !a.needle.isEmpty) ∧
      ∀ c ∈ r ++ s1, c ∈ t ++ s := by
  obtain ⟨init, r, s1, more, ht, hts, hr, hs1⟩ := patternAtoms_append t s
  refine ⟨r, s1, more.map (fun raw => parseAtom seg raw case norm), ?_, ?_, ?_⟩
  · unfold parsePattern
    rw [ht, List.dropLast_concat, List.map_append, List.filter_append]; rfl
  · unfold parsePattern
    rw [hts, ht, List.dropLast_concat, List.map_append, List.filter_append]; rfl
  · intro c hc
    rcases List.mem_append.mp hc with hc | hc
    · exact List.mem_append_left _ (hr c hc)
    · exact List.mem_append_right _ (hs1 c hc)

/-- **the atoms of an appended text**: the atoms parsed from every old piece but the last are the first atoms of the new
    pattern, unchanged and in order -/
theorem C07_append_keeps_earlier_atoms (seg : Seg) (old new : List Nat) (case : CaseMatching) (norm : Normalization) :
    ∃ lastOld lastNew : List Atom,
      parsePattern seg old case norm =
        (((patternAtoms old).dropLast.map (fun raw => parseAtom seg raw case norm)).filter (fun a => !a.needle.isEmpty)) ++ lastOld ∧
      parsePattern seg (old ++ new) case norm =
        (((patternAtoms old).dropLast.map (fun raw => parseAtom seg raw case norm)).filter (fun a => !a.needle.isEmpty)) ++ lastNew ∧
      lastOld.length ≤ 1 := by
  obtain ⟨r, s1, more, hold, hnew, _⟩ := parsePattern_append seg old new case norm
  exact ⟨_, _, hold, hnew, List.length_filter_le _ [_]⟩

/-- e.g. `foo b` → `foo ba`: the atom `foo` stays, the last atom `b` becomes `ba` -/
example :
    (parsePattern (fun c => c.map (fun _ => 1)) [102, 111, 111, 32, 98] .smart .smart).map (·.needle) = [[102, 111, 111], [98]] ∧
    (parsePattern (fun c => c.map (fun _ => 1)) ([102, 111, 111, 32, 98] ++ [97]) .smart .smart).map (·.needle) = [[102, 111, 111], [98, 97]] := by
  decide +kernel

theorem map_eq_of_append {f : Nat → Nat} {n s : List Nat} (h : (n ++ s).map f = n ++ s) : n.map f = n := by
  rw [List.map_append] at h
  exact (List.append_inj h (by simp)).1

open Spec in
theorem C07_fuzzy_append_narrows_unicode (cfg : Cfg) (ext : Ext) (nrep : Rep) (h n s : List Nat)
    (hn : (n ++ s).map (norm cfg nrep) = n ++ s)
    (hm : (fuzzyMatch cfg ext .unicode nrep h (n ++ s)).isSome = true) : (fuzzyMatch cfg ext .unicode nrep h n).isSome = true :=
  fuzzy_narrows cfg cfg ext .unicode nrep nrep h n (n ++ s) id (hk := nofun) (hk' := nofun)
    (fun _ => rfl) (by rw [List.map_id]; exact List.sublist_append_left n s) (map_eq_of_append hn) hn hm

open Spec in
theorem C07_fuzzy_append_narrows_ascii (cfg : Cfg) (ext : Ext) (h n s : List Nat) (hasc : ∀ x ∈ h, x < 128)
    (hn : ∀ c ∈ n ++ s, normAscii cfg c = c)
    (hm : (fuzzyMatch cfg ext .ascii .ascii h (n ++ s)).isSome = true) : (fuzzyMatch cfg ext .ascii .ascii h n).isSome = true :=
  fuzzy_narrows cfg cfg ext .ascii .ascii .ascii h n (n ++ s) id (hk := nofun) (hk' := nofun)
    (fun _ => rfl) (by rw [List.map_id]; exact List.sublist_append_left n s)
    (map_eq_self _ _ (fun c hc => hn c (List.mem_append_left s hc))) (map_eq_self _ _ hn) hm

end NucleoVerif
