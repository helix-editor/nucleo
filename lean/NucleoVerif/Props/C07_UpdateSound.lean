import NucleoVerif.Props.C07_AtomNarrows
import NucleoVerif.Props.C07_Append
import NucleoVerif.Props.C15_Multi
import NucleoVerif.Lemmas.Pattern
/-! # C07 (companion file) — the `Update` shortcut is sound: end to end for ASCII pattern text

`MultiPattern::reparse` reports `Update` for an appended text when `can_append_to` admits the column's last atom; the
worker then rescores the previous matches only, which is right exactly when the new pattern matches nothing the old one
did not (`ReparseOk` in `C07_Protocol`).  Proved here for ASCII pattern text, from the stages of `Atom::parse` on a
continued text up to multi-column patterns.  Non-ASCII text goes through the grapheme loop of `new_inner`, where the smart
normalization flag can flip (finding F16): `C07_NormFlip`, `C07_Sublist` and the `narrow` correspondence stream. -/
namespace NucleoVerif
open Gen Spec

theorem rES_append : ∀ (u v : List Nat), (u.getLast? = some 92 → v.head? ≠ some 32) →
    replaceEscSpace (u ++ v) = replaceEscSpace u ++ replaceEscSpace v := by
  intro u
  induction u using replaceEscSpace.induct with
  | case1 => intro v _; rfl
  | case2 c =>
    intro v hv
    cases v with
    | nil => rfl
    | cons d r =>
      have : ¬ (c = 92 ∧ d = 32) := fun ⟨hc, hd⟩ => hv (by rw [hc]; rfl) (by rw [hd]; rfl)
      show replaceEscSpace (c :: d :: r) = c :: replaceEscSpace (d :: r)
      rw [replaceEscSpace, if_neg this]
  | case3 c d r hcd ih =>
    intro v hv
    have hv' : r.getLast? = some 92 → v.head? ≠ some 32 :=
      fun hl => hv (by rw [List.getLast?_cons, List.getLast?_cons, hl]; rfl)
    show replaceEscSpace (c :: d :: (r ++ v)) = replaceEscSpace (c :: d :: r) ++ _
    rw [replaceEscSpace, if_pos hcd, replaceEscSpace, if_pos hcd, ih v hv']; rfl
  | case4 c d r hcd ih =>
    intro v hv
    have hv' : (d :: r).getLast? = some 92 → v.head? ≠ some 32 :=
      fun hl => hv (by rw [List.getLast?_cons, hl]; rfl)
    show replaceEscSpace (c :: d :: (r ++ v)) = replaceEscSpace (c :: d :: r) ++ _
    rw [replaceEscSpace, if_neg hcd, replaceEscSpace, if_neg hcd]
    exact congrArg (c :: ·) (ih v hv')

theorem rES_ne_nil (u : List Nat) (h : u ≠ []) : replaceEscSpace u ≠ [] := by
  intro e
  have := replaceEscSpace_getLast? u
  rw [e, List.getLast?_nil, eq_comm, List.getLast?_eq_none_iff] at this
  exact h this

/-- the kind a trailing `$` turns `k` into -/
def anchored (k : AtomKind) : AtomKind := if k = .fuzzy then .postfix else .exact

/-- `stripDollar` on the reversed text.  Rust's slice patterns `[.., b'\\', b'$']` match from the end; on the reversed
    list they are `cons` patterns, and of a continued text `(x ++ s).reverse = s.reverse ++ x.reverse` they see the
    appended characters first. -/
def dollarRev (k : AtomKind) : List Nat → AtomKind × Bool × List Nat
  | 36 :: 92 :: t => (k, true, t.reverse)
  | 36 :: t => ((if k = .fuzzy then .postfix else .exact), false, t.reverse)
  | t => (k, false, t.reverse)

theorem dollarRev_dollar (k : AtomKind) (t : List Nat) (h : t.head? ≠ some 92) :
    dollarRev k (36 :: t) = (anchored k, false, t.reverse) := by
  unfold dollarRev
  split
  · next t' e => exact absurd (by rw [(List.cons.inj e).2]; rfl) h
  · next t' _ e => rw [(List.cons.inj e).2]; rfl
  · next _ hd => exact absurd rfl (hd t)

theorem dollarRev_plain (k : AtomKind) (t : List Nat) (h : t.head? ≠ some 36) :
    dollarRev k t = (k, false, t.reverse) := by
  unfold dollarRev
  split
  · exact absurd rfl h
  · exact absurd rfl h
  · rfl

theorem dollarRev_cases (k : AtomKind) (xr : List Nat) :
    (∃ t, xr = 36 :: 92 :: t ∧ dollarRev k xr = (k, true, t.reverse)) ∨
    (∃ t, xr = 36 :: t ∧ dollarRev k xr = (anchored k, false, t.reverse)) ∨
    (dollarRev k xr = (k, false, xr.reverse) ∧ ∀ t, xr ≠ 36 :: t) := by
  unfold dollarRev
  split
  · exact Or.inl ⟨_, rfl, rfl⟩
  · exact Or.inr (Or.inl ⟨_, rfl, rfl⟩)
  · next _ h => exact Or.inr (Or.inr ⟨rfl, fun t e => h t e⟩)

theorem dollarRev_sublist (k : AtomKind) (t : List Nat) : (dollarRev k t).2.2.Sublist t.reverse := by
  unfold dollarRev; split
  · simp only [List.reverse_cons, List.append_assoc]; exact List.sublist_append_left _ _
  · simp only [List.reverse_cons]; exact List.sublist_append_left _ _
  · exact List.Sublist.refl _

theorem stripDollar_eq (k : AtomKind) (y : List Nat) : stripDollar k y = dollarRev k y.reverse := by
  unfold dollarRev
  split
  · next t h => rw [eq_of_reverse_eq_cons_cons h, stripDollar_escaped]
  · next t hesc h =>
    rw [eq_of_reverse_eq_cons h, stripDollar_dollar]
    rw [List.getLast?_reverse]
    intro e
    obtain ⟨u, rfl⟩ := List.head?_eq_some_iff.mp e
    exact hesc u rfl
  · next hesc hdol =>
    rw [stripDollar_plain, List.reverse_reverse]
    rw [← List.head?_reverse]
    intro e
    obtain ⟨u, hu⟩ := List.head?_eq_some_iff.mp e
    exact hdol u hu

/-- **continuing a text whose last character is not a backslash**: whatever the `$` rule does with the longer text, what
    is left of it starts with the whole old text -/
theorem dollarRev_append (k : AtomKind) (x s : List Nat) (hs : s ≠ []) (hx : x.getLast? ≠ some 92) :
    ∃ s' k3 dollar, dollarRev k (s.reverse ++ x.reverse) = (k3, dollar, x ++ s') ∧ (k3 = k ∨ (dollar = false ∧ k3 = anchored k)) := by
  obtain ⟨c, t, hc⟩ := List.exists_cons_of_ne_nil (l := s.reverse) (fun e => hs (List.reverse_eq_nil_iff.mp e))
  rw [hc, List.cons_append]
  by_cases h36 : c = 36
  · subst h36
    by_cases h92 : (t ++ x.reverse).head? = some 92
    · -- `\$`: the backslash is one of the new characters, as `x` does not end in one
      obtain ⟨t', rfl⟩ : ∃ t', t = 92 :: t' := by
        cases t with
        | nil => rw [List.nil_append, List.head?_reverse] at h92; exact absurd h92 hx
        | cons d t' => injection h92 with h; exact ⟨t', by rw [h]⟩
      refine ⟨t'.reverse, k, true, ?_, Or.inl rfl⟩
      rw [List.cons_append, dollarRev, List.reverse_append, List.reverse_reverse]
    · refine ⟨t.reverse, anchored k, false, ?_, Or.inr ⟨rfl, rfl⟩⟩
      rw [dollarRev_dollar k _ h92, List.reverse_append, List.reverse_reverse]
  · refine ⟨s, k, false, ?_, Or.inl rfl⟩
    rw [dollarRev_plain k (c :: (t ++ x.reverse)) (fun e => h36 (Option.some.inj e)), ← List.cons_append, ← hc,
      ← List.reverse_append, List.reverse_reverse]

/-- `[]` and `[92]` are the texts that more characters can turn into a marker (`!`) or an escaped marker (`\!`) -/
theorem stripNeg_append (r s : List Nat) (h1 : r ≠ []) (h2 : r ≠ [92]) :
    stripNeg (r ++ s) = ((stripNeg r).1, (stripNeg r).2 ++ s) := by
  obtain ⟨c, r, rfl⟩ := List.exists_cons_of_ne_nil h1
  by_cases hc : c = 33
  · subst hc; rfl
  by_cases he : c = 92 ∧ r.head? = some 33
  · obtain ⟨rfl, he⟩ := he
    obtain ⟨r', rfl⟩ := List.head?_eq_some_iff.mp he
    rfl
  · have plain : ∀ t : List Nat, (c = 92 → t.head? ≠ some 33) → stripNeg (c :: t) = (false, c :: t) := fun t ht =>
      stripNeg_plain _ (fun _ e => hc (List.cons.inj e).1)
        (fun _ e => ht (List.cons.inj e).1 (by rw [(List.cons.inj e).2]; rfl))
    have hr : c = 92 → r.head? ≠ some 33 := fun e h => he ⟨e, h⟩
    have hrs : c = 92 → (r ++ s).head? ≠ some 33 := fun e => by
      obtain ⟨d, r', rfl⟩ := List.exists_cons_of_ne_nil (l := r) (fun hn => h2 (by rw [e, hn]))
      exact hr e
    rw [plain r hr, List.cons_append, plain (r ++ s) hrs]

theorem stripKind_append (r s : List Nat) (h1 : r ≠ []) (h2 : r ≠ [92]) :
    stripKind (r ++ s) = ((stripKind r).1, (stripKind r).2 ++ s) := by
  obtain ⟨c, r, rfl⟩ := List.exists_cons_of_ne_nil h1
  by_cases hc : c = 94
  · subst hc; rfl
  by_cases hc' : c = 39
  · subst hc'; rfl
  by_cases he : c = 92 ∧ (r.head? = some 94 ∨ r.head? = some 39)
  · obtain ⟨rfl, he | he⟩ := he
    · obtain ⟨r', rfl⟩ := List.head?_eq_some_iff.mp he
      rfl
    · obtain ⟨r', rfl⟩ := List.head?_eq_some_iff.mp he
      rfl
  · have hr : c = 92 → r.head? ≠ some 94 ∧ r.head? ≠ some 39 :=
      fun e => ⟨fun h => he ⟨e, .inl h⟩, fun h => he ⟨e, .inr h⟩⟩
    have hrs : c = 92 → (r ++ s).head? ≠ some 94 ∧ (r ++ s).head? ≠ some 39 := fun e => by
      obtain ⟨d, r', rfl⟩ := List.exists_cons_of_ne_nil (l := r) (fun hn => h2 (by rw [e, hn]))
      exact hr e
    have plain : ∀ t : List Nat, (c = 92 → t.head? ≠ some 94 ∧ t.head? ≠ some 39) →
        stripKind (c :: t) = (.fuzzy, c :: t) := fun t ht =>
      stripKind_plain _ (fun _ e => hc (List.cons.inj e).1) (fun _ e => hc' (List.cons.inj e).1)
        (fun _ e => (ht (List.cons.inj e).1).1 (by rw [(List.cons.inj e).2]; rfl))
        (fun _ e => (ht (List.cons.inj e).1).2 (by rw [(List.cons.inj e).2]; rfl))
    rw [plain r hr, List.cons_append, plain (r ++ s) hrs]

def caseN (case : CaseMatching) (l : List Nat) : List Nat :=
  match case with
  | .ignore => l.map asciiLower
  | _ => l

def icOf (case : CaseMatching) (l : List Nat) : Bool :=
  match case with
  | .ignore => true
  | .smart => !l.any (fun b => 65 ≤ b && b ≤ 90)
  | .respect => false

/-- the atom the byte path of `new_inner` builds from what `stripDollar` leaves: `p` = (kind, a literal `$` is appended,
    text) -/
def asciiAtom (case : CaseMatching) (nz : Bool) (p : AtomKind × Bool × List Nat) : Atom :=
  { negative := false, kind := p.1, needleRep := .ascii,
    needle := caseN case (replaceEscSpace p.2.2) ++ (if p.2.1 then [36] else []),
    ignoreCase := icOf case (replaceEscSpace p.2.2), normalize := nz }

theorem newInner_ascii (seg : Seg) (x : List Nat) (case : CaseMatching) (norm : Normalization) (kind : AtomKind)
    (dollar : Bool) (hx : ∀ c ∈ x, c < 128) :
    newInner seg x case norm kind true dollar = asciiAtom case (decide (norm = .smart)) (kind, dollar, x) := by
  have hall : (x.all (· < 128)) = true := List.all_eq_true.mpr fun c hc => decide_eq_true (hx c hc)
  unfold newInner
  rw [if_pos hall]
  cases case <;> cases dollar <;> simp [asciiAtom, caseN, icOf]

/-- the text of an atom behind its `!`, `^`, `'` prefixes: (negated, kind, rest) -/
def stripMarkers (r : List Nat) : Bool × AtomKind × List Nat :=
  ((stripNeg r).1, (stripKind (stripNeg r).2).1, (stripKind (stripNeg r).2).2)

theorem stripMarkers_sublist (r : List Nat) : (stripMarkers r).2.2.Sublist r := (stripKind_sublist _).trans (stripNeg_sublist r)

theorem stripMarkers_append (r s : List Nat) (h1 : (stripMarkers r).2.2 ≠ []) (h2 : (stripMarkers r).2.2 ≠ [92]) :
    stripMarkers (r ++ s) = ((stripMarkers r).1, (stripMarkers r).2.1, (stripMarkers r).2.2 ++ s) := by
  unfold stripMarkers at *
  have hk : (stripNeg r).2 ≠ [] ∧ (stripNeg r).2 ≠ [92] :=
    ⟨fun e => h1 (by rw [e]; rfl), fun e => h2 (by rw [e]; rfl)⟩
  have hn : r ≠ [] ∧ r ≠ [92] := ⟨fun e => hk.1 (by rw [e]; rfl), fun e => hk.2 (by rw [e]; rfl)⟩
  rw [stripNeg_append r s hn.1 hn.2]
  simp only
  rw [stripKind_append _ s hk.1 hk.2]

theorem parseAtom_ascii (seg : Seg) (r : List Nat) (case : CaseMatching) (norm : Normalization) (hr : ∀ c ∈ r, c < 128)
    (hneg : (stripMarkers r).1 = false) :
    parseAtom seg r case norm =
      asciiAtom case (decide (norm = .smart)) (dollarRev (stripMarkers r).2.1 (stripMarkers r).2.2.reverse) := by
  have hneg' : (stripNeg r).1 = false := hneg
  have hb : ∀ c ∈ (dollarRev (stripKind (stripNeg r).2).1 (stripKind (stripNeg r).2).2.reverse).2.2, c < 128 := by
    intro c hc
    have h1 := (dollarRev_sublist _ _).subset hc
    rw [List.reverse_reverse] at h1
    exact hr c ((stripMarkers_sublist r).subset h1)
  unfold parseAtom
  simp only [hneg', stripDollar_eq, Bool.false_eq_true, false_and, if_false]
  rw [newInner_ascii seg _ case norm _ _ hb]
  rfl

theorem caseN_low (case : CaseMatching) (l : List Nat) (h : icOf case l = true) :
    ∀ c ∈ caseN case l, ¬ (65 ≤ c ∧ c ≤ 90) := by
  intro c hc
  cases case with
  | ignore =>
    simp only [caseN, List.mem_map] at hc
    obtain ⟨d, _, rfl⟩ := hc
    exact asciiLower_not_upper d
  | smart =>
    simp only [icOf, Bool.not_eq_true', List.any_eq_false, Bool.and_eq_true, decide_eq_true_eq] at h
    exact h c hc
  | respect => simp [icOf] at h

theorem caseN_lt (case : CaseMatching) (l : List Nat) (h : ∀ c ∈ l, c < 128) : ∀ c ∈ caseN case l, c < 128 := by
  intro c hc
  cases case with
  | ignore =>
    simp only [caseN, List.mem_map] at hc
    obtain ⟨d, hd, rfl⟩ := hc
    exact asciiLower_lt d (h d hd)
  | smart => exact h c hc
  | respect => exact h c hc

theorem caseN_append (case : CaseMatching) (l m : List Nat) : caseN case (l ++ m) = caseN case l ++ caseN case m := by
  cases case <;> simp [caseN]

theorem caseN_sublist (case : CaseMatching) {l m : List Nat} (h : l.Sublist m) : (caseN case l).Sublist (caseN case m) := by
  cases case with
  | ignore => exact h.map _
  | smart => exact h
  | respect => exact h

theorem icOf_mono (case : CaseMatching) {l m : List Nat} (h : l.Sublist m) :
    icOf case l = icOf case m ∨ (icOf case l = true ∧ icOf case m = false) := by
  cases case with
  | ignore => exact Or.inl rfl
  | respect => exact Or.inl rfl
  | smart =>
    simp only [icOf]
    cases hm : m.any (fun b => decide (65 ≤ b) && decide (b ≤ 90)) with
    | false =>
      have : l.any (fun b => decide (65 ≤ b) && decide (b ≤ 90)) = false := by
        rw [List.any_eq_false] at hm ⊢
        intro c hc; exact hm c (h.subset hc)
      rw [this]; exact Or.inl rfl
    | true =>
      cases l.any (fun b => decide (65 ≤ b) && decide (b ≤ 90)) with
      | false => exact Or.inr ⟨rfl, rfl⟩
      | true => exact Or.inl rfl

theorem asciiAtom_needle_forall (P : Nat → Prop) (case : CaseMatching) (nz : Bool) (p : AtomKind × Bool × List Nat)
    (h36 : P 36) (hbody : ∀ c ∈ caseN case (replaceEscSpace p.2.2), P c) : ∀ c ∈ (asciiAtom case nz p).needle, P c := by
  intro c hc
  rcases List.mem_append.mp hc with hc | hc
  · exact hbody c hc
  · cases hd : p.2.1 with
    | false => rw [hd] at hc; cases hc
    | true => rw [hd] at hc; rw [List.mem_singleton.mp hc]; exact h36

theorem asciiAtom_rel (case : CaseMatching) (nz : Bool) (k kb : AtomKind) (ba bb : List Nat) (da db : Bool)
    (hk : k = .fuzzy ∨ k = .substring ∨ k = .prefix) (hkb : kb = k ∨ kb = anchored k)
    (hbody : (replaceEscSpace ba).Sublist (replaceEscSpace bb))
    (hneedle : (asciiAtom case nz (k, da, ba)).needle <+: (asciiAtom case nz (kb, db, bb)).needle ∨
      (k = .fuzzy ∧ (asciiAtom case nz (k, da, ba)).needle.Sublist (asciiAtom case nz (kb, db, bb)).needle))
    (hne : (asciiAtom case nz (k, da, ba)).needle ≠ [])
    (hasc : ∀ c ∈ ba, c < 128) :
    AtomRel (asciiAtom case nz (k, da, ba)) (asciiAtom case nz (kb, db, bb)) where
  negA := rfl
  negB := rfl
  repA := rfl
  repB := rfl
  nz := rfl
  kinds := by
    rcases hk with rfl | rfl | rfl <;> rcases hkb with rfl | rfl
    · exact Or.inl ⟨rfl, nofun, nofun⟩
    · exact Or.inr (Or.inl ⟨rfl, rfl⟩)
    · exact Or.inl ⟨rfl, nofun, nofun⟩
    · exact Or.inr (Or.inr (Or.inl ⟨rfl, rfl⟩))
    · exact Or.inl ⟨rfl, nofun, nofun⟩
    · exact Or.inr (Or.inr (Or.inr ⟨rfl, rfl⟩))
  needle := hneedle
  ne := hne
  icase := icOf_mono case hbody
  lowA := fun hic => asciiAtom_needle_forall _ case nz _ (by omega) (caseN_low case _ hic)
  lowB := fun hic => asciiAtom_needle_forall _ case nz _ (by omega) (caseN_low case _ hic)
  ascA := asciiAtom_needle_forall _ case nz _ (by omega)
    (caseN_lt case _ fun d hd => hasc d ((replaceEscSpace_sublist ba).subset hd))

/-- the texts `x` (behind the markers) that `can_append_to` admits: non-empty, not ending in a backslash, and either
    `t\$` under the fuzzy kind or a text the `$` rule leaves alone -/
theorem admitted_text (case : CaseMatching) (nz : Bool) (k : AtomKind) (x : List Nat)
    (hne : (asciiAtom case nz (dollarRev k x.reverse)).needle ≠ [])
    (hok : lastAtomAllowsUpdate (asciiAtom case nz (dollarRev k x.reverse)) = true) :
    x ≠ [] ∧ x.getLast? ≠ some 92 ∧
      ((∃ t, x = t ++ [92, 36] ∧ k = .fuzzy ∧ dollarRev k x.reverse = (k, true, t)) ∨
        dollarRev k x.reverse = (k, false, x)) := by
  obtain ⟨_, hk1, hk2, hl92, hl36⟩ := C07_last_atom_rule _ hok
  rcases dollarRev_cases k x.reverse with ⟨t, hxr, hold⟩ | ⟨t, _, hold⟩ | ⟨hold, _⟩
  · have hx := eq_of_reverse_eq_cons_cons hxr
    rw [hold] at hl36
    refine ⟨?_, ?_, Or.inl ⟨t.reverse, hx, hl36 List.getLast?_concat, hold⟩⟩
    · rw [hx]; simp
    · rw [hx]; simp
  · rw [hold] at hk1 hk2
    by_cases hkf : k = .fuzzy
    · exact absurd (if_pos hkf) hk1
    · exact absurd (if_neg hkf) hk2
  · rw [List.reverse_reverse] at hold
    rw [hold] at hne hl92
    refine ⟨?_, ?_, Or.inr hold⟩
    · rintro rfl
      exact hne (by cases case <;> rfl)
    · intro e
      have : (caseN case (replaceEscSpace x)).getLast? = some 92 := by
        cases case <;> simp [caseN, List.getLast?_map, replaceEscSpace_getLast?, e, asciiLower]
      exact hl92 (by simpa [asciiAtom] using this)

/-- `hx92`, `hshape`: the conclusion of `admitted_text` -/
theorem continued_rel (case : CaseMatching) (nz : Bool) (k : AtomKind) (x s : List Nat)
    (hk : k = .fuzzy ∨ k = .substring ∨ k = .prefix) (hasc : ∀ c ∈ x, c < 128)
    (hne : (asciiAtom case nz (dollarRev k x.reverse)).needle ≠ []) (hx92 : x.getLast? ≠ some 92)
    (hshape : (∃ t, x = t ++ [92, 36] ∧ k = .fuzzy ∧ dollarRev k x.reverse = (k, true, t)) ∨
      dollarRev k x.reverse = (k, false, x)) :
    AtomRel (asciiAtom case nz (dollarRev k x.reverse)) (asciiAtom case nz (dollarRev k (x ++ s).reverse)) := by
  have hkb : ∀ {kb : AtomKind} {db : Bool}, kb = k ∨ (db = false ∧ kb = anchored k) → kb = k ∨ kb = anchored k :=
    fun h => h.imp_right And.right
  rcases hshape with ⟨t, hx, hkf, hold⟩ | hold
  · -- the escaped `$` stays in the needle: the new needle need not start with the old one
    rw [hold] at hne ⊢
    have htasc : ∀ c ∈ t, c < 128 := fun c hc => hasc c (by rw [hx]; exact List.mem_append_left _ hc)
    by_cases hs : s = []
    · rw [hs, List.append_nil, hold]
      exact asciiAtom_rel case nz k k t t true true hk (Or.inl rfl) (List.Sublist.refl _) (Or.inl (List.prefix_refl _))
        hne htasc
    · obtain ⟨s', kb, db, hnew, hkb'⟩ := dollarRev_append k x s hs hx92
      rw [List.reverse_append, hnew]
      have hres : replaceEscSpace (x ++ s') = replaceEscSpace t ++ ([92, 36] ++ replaceEscSpace s') := by
        rw [hx, List.append_assoc, rES_append t ([92, 36] ++ s') (fun _ => by simp)]
        cases s' <;> rfl
      have h36 : caseN case [92, 36] = [92, 36] := by cases case <;> rfl
      refine asciiAtom_rel case nz k kb t (x ++ s') true db hk (hkb hkb') ?_ (Or.inr ⟨hkf, ?_⟩) hne htasc
      · rw [hres]; exact List.sublist_append_left _ _
      · simp only [asciiAtom, if_true]
        rw [hres, caseN_append, caseN_append, h36, List.append_assoc]
        exact (List.Sublist.refl _).append (((List.sublist_append_left [36] _).cons 92))
  · rw [hold] at hne ⊢
    by_cases hs : s = []
    · rw [hs, List.append_nil, hold]
      exact asciiAtom_rel case nz k k x x false false hk (Or.inl rfl) (List.Sublist.refl _) (Or.inl (List.prefix_refl _))
        hne hasc
    · obtain ⟨s', kb, db, hnew, hkb'⟩ := dollarRev_append k x s hs hx92
      rw [List.reverse_append, hnew]
      have hres : replaceEscSpace (x ++ s') = replaceEscSpace x ++ replaceEscSpace s' :=
        rES_append x s' (fun e => absurd e hx92)
      refine asciiAtom_rel case nz k kb x (x ++ s') false db hk (hkb hkb') ?_ (Or.inl ?_) hne hasc
      · rw [hres]; exact List.sublist_append_left _ _
      · simp only [asciiAtom, Bool.false_eq_true, if_false, List.append_nil]
        rw [hres, caseN_append, List.append_assoc]
        exact List.prefix_append _ _

/-- **the parser, on continued ASCII text**: if the atom parsed from a piece `r` is one `can_append_to` admits, the atom parsed
    from `r ++ s` is related to it by `AtomRel` — whatever `s` is (a `$` that anchors it, `\$`, an upper-case letter that
    switches smart case off, escaped spaces, …) -/
theorem C07_parse_append_rel (seg : Seg) (r s : List Nat) (case : CaseMatching) (norm : Normalization)
    (hr : ∀ c ∈ r ++ s, c < 128)
    (hne : (parseAtom seg r case norm).needle ≠ [])
    (hok : lastAtomAllowsUpdate (parseAtom seg r case norm) = true) :
    AtomRel (parseAtom seg r case norm) (parseAtom seg (r ++ s) case norm) := by
  have hr1 : ∀ c ∈ r, c < 128 := fun c hc => hr c (List.mem_append_left _ hc)
  have hneg : (stripMarkers r).1 = false := (C07_last_atom_rule _ hok).1
  rw [parseAtom_ascii seg r case norm hr1 hneg] at hne hok ⊢
  obtain ⟨hx, hx92, hshape⟩ := admitted_text case _ _ _ hne hok
  have hfa := stripMarkers_append r s hx (fun e => hx92 (by rw [e]; rfl))
  rw [parseAtom_ascii seg (r ++ s) case norm hr (by rw [hfa]; exact hneg), hfa]
  exact continued_rel case _ _ _ s (stripKind_kinds _) (fun c hc => hr1 c ((stripMarkers_sublist r).subset hc)) hne hx92
    hshape

/-- **the `Update` shortcut is sound for ASCII pattern text**: when `MultiPattern::reparse` reports `Update` for a column
    whose text `t` was continued to `t ++ s`, every haystack the new pattern matches the old pattern matched — for every
    case-matching and normalization setting, every configuration whose largest boundary bonus is at least 8, and haystacks in
    either representation.  (The worker then only rescores the previous matches: `C07_protocol`'s hypothesis `ReparseOk`.) -/
theorem C07_update_narrows_ascii (seg : Seg) (t s : List Nat) (case : CaseMatching) (norm : Normalization)
    (hasc : ∀ c ∈ t ++ s, c < 128) (old : PStatus)
    (hupd : reparseStatus old (parsePattern seg t case norm) (parsePattern seg (t ++ s) case norm) true = .update)
    (cfg : Cfg) (ext : Ext) (hrep : Rep) (h : List Nat) (hh : hrep = .ascii → ∀ x ∈ h, x < 128) (hb : 8 ≤ maxBonus cfg)
    (hm : (patternEval (parsePattern seg (t ++ s) case norm) cfg ext hrep h).isSome = true) :
    (patternEval (parsePattern seg t case norm) cfg ext hrep h).isSome = true := by
  obtain ⟨r, s1, more, eold, enew, hmem⟩ := parsePattern_append seg t s case norm
  rw [patternEval_isSome, List.all_eq_true] at hm ⊢
  intro a ha
  rw [eold] at ha
  rcases List.mem_append.mp ha with ha | ha
  · exact hm a (by rw [enew]; exact List.mem_append_left _ ha)
  · obtain ⟨haeq, hane⟩ : a = parseAtom seg r case norm ∧ a.needle ≠ [] := by simpa using ha
    have hlast : (parsePattern seg t case norm).getLast? = some a := by
      rw [eold, List.filter_cons_of_pos (by simpa [haeq] using hane), List.filter_nil, List.getLast?_concat, haeq]
    have hallow := (C07_update_rule old _ _ true hupd).2.2.1 a hlast
    rw [haeq] at hallow hane ⊢
    have hrel := C07_parse_append_rel seg r s1 case norm (fun c hc => hasc c (hmem c hc)) hane hallow
    apply C07_atom_narrows _ _ hrel cfg ext hrep h hh hb
    apply hm
    rw [enew]
    apply List.mem_append_right
    refine List.mem_filter.mpr ⟨List.mem_cons_self, ?_⟩
    cases hb' : (parseAtom seg (r ++ s1) case norm).needle with
    | nil => exact absurd (List.sublist_nil.mp (hb' ▸ hrel.sublist)) hane
    | cons _ _ => rfl

/-- the hypothesis is met, with a change of kind and of case sensitivity: `foo` → `fooB$` (fuzzy, case-insensitive → postfix,
    case-sensitive) is reported as `Update` -/
example :
    reparseStatus .unchanged (parsePattern (fun c => c.map (fun _ => 1)) [102, 111, 111] .smart .smart)
      (parsePattern (fun c => c.map (fun _ => 1)) ([102, 111, 111] ++ [66, 36]) .smart .smart) true = .update ∧
    (parsePattern (fun c => c.map (fun _ => 1)) [102, 111, 111] .smart .smart).map (fun a => (a.kind, a.needle, a.ignoreCase)) =
      [(.fuzzy, [102, 111, 111], true)] ∧
    (parsePattern (fun c => c.map (fun _ => 1)) ([102, 111, 111] ++ [66, 36]) .smart .smart).map (fun a => (a.kind, a.needle, a.ignoreCase)) =
      [(.postfix, [102, 111, 111, 66], false)] := by
  decide +kernel

theorem multiEval_narrows (cfg : Cfg) (ext : Ext) : ∀ (ps qs : List (List Atom)) (hs : List (Rep × List Nat)),
    ps.length = qs.length →
    (∀ (k : Nat) (p q : List Atom) (h : Rep × List Nat), ps[k]? = some p → qs[k]? = some q → hs[k]? = some h →
      (patternEval p cfg ext h.1 h.2).isSome = true → (patternEval q cfg ext h.1 h.2).isSome = true) →
    (multiEval cfg ext ps hs).isSome = true → (multiEval cfg ext qs hs).isSome = true := by
  intro ps
  induction ps with
  | nil =>
    intro qs hs hl _ hm
    cases qs with
    | nil => exact hm
    | cons _ _ => cases hl
  | cons p ps ih =>
    intro qs hs hl hcol hm
    cases qs with
    | nil => cases hl
    | cons q qs =>
      cases hs with
      | nil => rfl
      | cons h hs =>
        rw [multiEval_cons_isSome, Bool.and_eq_true] at hm ⊢
        exact ⟨hcol 0 p q h rfl rfl rfl hm.1, ih qs hs (Nat.succ.inj hl) (fun k => hcol (k + 1)) hm.2⟩

/-- **the `Update` shortcut on a multi-column pattern**: column `c`'s ASCII text `t` is continued to `t ++ s`, `reparse` answers
    `Update` for it, the other columns keep their patterns: every item the new multi-column pattern matches the old one matched -/
theorem C07_multi_update_narrows_ascii (seg : Seg) (ps : List (List Atom)) (c : Nat) (t s : List Nat)
    (case : CaseMatching) (norm : Normalization) (hasc : ∀ x ∈ t ++ s, x < 128) (old : PStatus)
    (hc : ps[c]? = some (parsePattern seg t case norm))
    (hupd : reparseStatus old (parsePattern seg t case norm) (parsePattern seg (t ++ s) case norm) true = .update)
    (cfg : Cfg) (ext : Ext) (hb : 8 ≤ maxBonus cfg) (hs : List (Rep × List Nat))
    (hh : ∀ h ∈ hs, h.1 = .ascii → ∀ x ∈ h.2, x < 128)
    (hm : (multiEval cfg ext (ps.set c (parsePattern seg (t ++ s) case norm)) hs).isSome = true) :
    (multiEval cfg ext ps hs).isSome = true := by
  apply multiEval_narrows cfg ext (ps.set c (parsePattern seg (t ++ s) case norm)) ps hs (by simp) _ hm
  intro k p q h h1 h2 h3 hp
  by_cases hk : k = c
  · subst hk
    rw [hc] at h2
    have hlt : k < ps.length := (List.getElem?_eq_some_iff.mp hc).1
    rw [List.getElem?_set_self hlt] at h1
    injection h1 with h1; injection h2 with h2
    subst h1; subst h2
    exact C07_update_narrows_ascii seg t s case norm hasc old hupd cfg ext h.1 h.2 (hh h (List.mem_of_getElem? h3)) hb hp
  · rw [List.getElem?_set_ne (fun e => hk e.symm)] at h1
    rw [h1] at h2; injection h2 with h2; subst h2
    exact hp

end NucleoVerif
