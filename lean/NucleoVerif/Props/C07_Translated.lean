import NucleoVerif.Model.Pattern
import NucleoVerif.Gen.Rules
/-! # C07 (companion file) — `can_append_to`, translated from the source, is the model's rule

`Gen/Rules.lean` is regenerated on every run from `src/pattern.rs`: `can_append_to`, the rule of the append shortcut
(findings F9, F16).  The theorems of C07 are about `lastAtomAllowsUpdate`; they are the same function. -/
namespace NucleoVerif

def AtomKind.id : AtomKind → Nat
  | .fuzzy => 0 | .substring => 1 | .prefix => 2 | .postfix => 3 | .exact => 4

theorem C07_translated_can_append_to (a : Atom) :
    lastAtomAllowsUpdate a = Gen.Rules.can_append_to a.negative a.kind.id a.needle.getLast? := by
  unfold lastAtomAllowsUpdate Gen.Rules.can_append_to
  cases a.negative <;> cases a.kind <;> rfl

/-- the F16 test as the source phrases it -/
theorem normKept_eq (o n : List Atom) :
    normKept o n = !((o.getLast?.map (·.normalize) == some true) && (n[o.length - 1]?.map (·.normalize) == some false)) := by
  unfold normKept
  cases o.getLast? with
  | none => rfl
  | some a =>
    cases n[o.length - 1]? with
    | none => exact (congrArg (!·) (Bool.and_false _)).symm
    | some b =>
      show (!(a.normalize && !b.normalize)) = !((some a.normalize == some true) && (some b.normalize == some false))
      cases a.normalize <;> cases b.normalize <;> rfl

/-- **`MultiPattern::reparse`'s status decision, with the F16 test, is the model's `reparseStatus`** for a call with
    `Normalization::Smart`: the literal `true` is the source's `matches!(normalization, Normalization::Smart)`, of which
    the model's `reparseStatus` is independent.  The atoms' `normalize` flags stand for `normalizes(atom)` (under smart
    normalization the flag is on exactly when no character of the needle text is changed by normalization:
    `C14_one_grammar`, `nzSpec`) -/
theorem C07_translated_reparse_status (old : PStatus) (oldAtoms newAtoms : List Atom) (append : Bool) :
    (reparseStatus old oldAtoms newAtoms append).rank =
      Gen.Rules.reparse_status append old.rank
        (match oldAtoms.getLast? with | none => true | some a => Gen.Rules.can_append_to a.negative a.kind.id a.needle.getLast?)
        true (oldAtoms.getLast?.map (·.normalize)) (newAtoms[oldAtoms.length - 1]?.map (·.normalize)) := by
  have hlast : (match oldAtoms.getLast? with | none => true | some a => Gen.Rules.can_append_to a.negative a.kind.id a.needle.getLast?) =
      (match oldAtoms.getLast? with | none => true | some a => lastAtomAllowsUpdate a) := by
    cases oldAtoms.getLast? with
    | none => rfl
    | some a => exact (C07_translated_can_append_to a).symm
  have hrank : (old.rank != 2) = decide (old ≠ .rescore) := by cases old <;> rfl
  unfold reparseStatus Gen.Rules.reparse_status
  dsimp only
  rw [hlast, normKept_eq, hrank]
  -- both sides are the same function of three Booleans: the first clause of the rule, and the two sides of the F16 test
  generalize (append && decide (old ≠ .rescore) && match oldAtoms.getLast? with | none => true | some a => lastAtomAllowsUpdate a) = first
  generalize (oldAtoms.getLast?.map (·.normalize) == some true) = p
  generalize (newAtoms[oldAtoms.length - 1]?.map (·.normalize) == some false) = q
  cases first <;> cases p <;> cases q <;> rfl

end NucleoVerif
