import NucleoVerif.Lemmas.Tick
import NucleoVerif.Lemmas.Run
/-! # C20 — active_injectors counts the live injectors of the current stream

`active_injectors()` is `strong_count(items) − matcher_item_refs(state) − [snapshot.items is items]`.  In every state
reachable through `injector()` / `clone` / `drop` / `restart` / `tick` (any lock outcome, counter values and run effects
that leave the worker's stream handle alone) that is the number of live injector handles of the current stream. -/
namespace NucleoVerif.Nu

def liveInjectors (n : Nucleo) : Nat := (n.injectors.filter (fun p => p.2 = n.cur)).length

/-- the invariant behind `matcher_item_refs`: the worker holds the current stream unless a restart
    has happened since the last tick; stream ids are fresh -/
structure Inv20 (n : Nucleo) : Prop where
  held : n.state ≠ .cleared → n.worker.stream = n.cur
  notHeld : n.state = .cleared → n.worker.stream ≠ n.cur
  curFresh : n.cur < n.nextStream
  workerFresh : n.worker.stream < n.nextStream

/-- `matcher_item_refs`: the matcher's own handle, and the worker's while it holds the current stream -/
theorem Inv20.refs_eq {n : Nucleo} (h : Inv20 n) : n.state.refs = 1 + (if n.worker.stream = n.cur then 1 else 0) := by
  by_cases hs : n.state = .cleared
  · rw [if_neg (h.notHeld hs), hs]; rfl
  · rw [if_pos (h.held hs)]
    cases hst : n.state
    · rfl
    · exact absurd hst hs
    · rfl

theorem C20_count (n : Nucleo) (h : Inv20 n) : n.activeInjectors = liveInjectors n := by
  unfold Nucleo.activeInjectors Nucleo.strongCount liveInjectors
  rw [h.refs_eq, if_pos rfl]
  omega

theorem Inv20.new : Inv20 Nucleo.new := ⟨fun _ => rfl, nofun, Nat.zero_lt_one, Nat.zero_lt_one⟩

theorem Inv20.of_eq {n n' : Nucleo} (h : Inv20 n) (e1 : n'.state = n.state) (e2 : n'.cur = n.cur)
    (e3 : n'.nextStream = n.nextStream) (e4 : n'.worker.stream = n.worker.stream) : Inv20 n' :=
  ⟨by rw [e1, e2, e4]; exact h.held, by rw [e1, e2, e4]; exact h.notHeld, by rw [e2, e3]; exact h.curFresh,
   by rw [e3, e4]; exact h.workerFresh⟩

theorem Inv20.reparse {n : Nucleo} (h : Inv20 n) (p : Nat) (s : PStatus) : Inv20 (n.reparse p s) :=
  h.of_eq rfl rfl rfl rfl

/-- after `restart` the worker still holds the old stream: `Cleared` counts one reference only, and injectors created
    before the restart are not counted any more (they feed the old stream) -/
theorem Inv20.restart {n : Nucleo} (h : Inv20 n) (clear : Bool) : Inv20 (n.restart clear) :=
  ⟨fun hs => absurd rfl hs, fun _ => Nat.ne_of_lt h.workerFresh, Nat.lt_succ_self _, Nat.lt_succ_of_lt h.workerFresh⟩

theorem tickInnerTimeout_frame (n : Nucleo) :
    (tickInnerTimeout n).1 = { n with shouldNotify := true } := rfl

def KeepsStream (run : Worker → Worker) : Prop := ∀ w, (run w).stream = w.stream

theorem joinRun_stream (n : Nucleo) {run : Worker → Worker} (hk : KeepsStream run) :
    (n.joinRun run).worker.stream = n.worker.stream := by
  rw [Nucleo.joinRun_eq]
  show (if n.pending.isSome then run n.worker else n.worker).stream = _
  split
  · exact hk _
  · rfl

theorem Inv20.tickCancelFirst {n : Nucleo} (h : Inv20 n) (o : TickOracle) (h0 : KeepsStream o.run0) :
    Inv20 (n.tickCancelFirst o).1 := by
  -- the spawned run is handed the current stream after a restart; otherwise the worker held it already
  have hw : (if n.state.canceled then n.cur else (n.joinRun o.run0).worker.stream) = n.cur := by
    cases hc : n.state.canceled with
    | true => rfl
    | false => exact (joinRun_stream n h0).trans (h.held (by rw [(NState.canceled_eq_false_iff _).mp hc]; nofun))
  rw [Nucleo.tickCancelFirst_eq]
  exact ⟨fun _ => hw, nofun, h.curFresh, hw.symm ▸ h.curFresh⟩

theorem Inv20.tickPlain {n : Nucleo} (h : Inv20 n) (hs : n.state = .fresh) (o : TickOracle) (h0 : KeepsStream o.run0) :
    Inv20 (n.tickPlain o).1 := by
  rcases n.tickPlain_shapes o with ⟨_, e⟩ | ⟨_, e⟩ | ⟨_, e⟩ <;> rw [e]
  · exact h.of_eq rfl rfl rfl rfl
  · refine h.of_eq rfl rfl rfl ?_
    show (if n.state.canceled then n.cur else (n.joinRun o.run0).worker.stream) = _
    rw [hs]
    exact joinRun_stream n h0
  · exact h.of_eq rfl rfl rfl (joinRun_stream n h0)

theorem Inv20.tick {n : Nucleo} (h : Inv20 n) (o : TickOracle) (h0 : KeepsStream o.run0) (h1 : KeepsStream o.run1) :
    Inv20 (n.tick o).1 := by
  have h' : Inv20 ({ n with shouldNotify := false } : Nucleo) := h.of_eq rfl rfl rfl rfl
  by_cases hc : n.tickCancels = true
  · rw [(n.tick_of_cancels o hc).1]
    exact (h'.tickCancelFirst o h0).tickPlain (by rw [Nucleo.tickCancelFirst_eq]) o.second h1
  · rw [Bool.not_eq_true] at hc
    rw [Nucleo.tick_of_not_cancels n o hc]
    exact h'.tickPlain ((n.tickCancels_eq_false_iff.mp hc).2) o h0

/-- every oracle built from `Worker.run` qualifies -/
theorem run_keepsStream (score : Nat → Item → Option Nat) (len : Item → Nat) (st : PStatus) (cl pe : Bool) (o : Obs) :
    KeepsStream (fun w => (w.run score len st cl pe o).1) :=
  fun w => (run_control score len w st cl pe o).2.2.1

/-- the public operations of `Nucleo` as events; injector handles are named by numbers the caller picks -/
inductive Ev
  | inj (h : Nat) | clone (src h : Nat) | drop (h : Nat)
  | restart (clear : Bool)
  | reparse (pid : Nat) (status : PStatus)
  | tick (o : TickOracle)

def applyEv (n : Nucleo) : Ev → Nucleo
  | .inj h => n.addInjector h
  | .clone a b => n.cloneInjector a b
  | .drop h => n.dropInjector h
  | .restart c => n.restart c
  | .reparse p s => n.reparse p s
  | .tick o => (n.tick o).1

/-- the only requirement on the environment: background runs do not replace the worker's stream handle -/
def Ev.ok : Ev → Prop
  | .tick o => KeepsStream o.run0 ∧ KeepsStream o.run1
  | _ => True

theorem Nucleo.cloneInjector_eq (n : Nucleo) (a b : Nat) : ∃ l, n.cloneInjector a b = { n with injectors := l } := by
  unfold Nucleo.cloneInjector
  split
  · exact ⟨_, rfl⟩
  · exact ⟨n.injectors, rfl⟩

theorem applyEv_eq (n : Nucleo) (e : Ev) :
    (∃ l, applyEv n e = { n with injectors := l }) ∨ (∃ c, e = .restart c) ∨ (∃ p s, e = .reparse p s) ∨
    ∃ o, e = .tick o := by
  cases e with
  | clone a b => exact Or.inl (n.cloneInjector_eq a b)
  | restart c => exact Or.inr (Or.inl ⟨c, rfl⟩)
  | reparse p s => exact Or.inr (Or.inr (Or.inl ⟨p, s, rfl⟩))
  | tick o => exact Or.inr (Or.inr (Or.inr ⟨o, rfl⟩))
  | _ => exact Or.inl ⟨_, rfl⟩

/-- induction over a history; `ok` says which histories are permitted from which state -/
theorem history_induction {I : Nucleo → Prop} {ok : Nucleo → List Ev → Prop}
    (step : ∀ n e es, I n → ok n (e :: es) → I (applyEv n e) ∧ ok (applyEv n e) es) :
    ∀ (evs : List Ev) (n : Nucleo), I n → ok n evs → I (evs.foldl applyEv n) := by
  intro evs
  induction evs with
  | nil => intro n h _; exact h
  | cons e es ih => intro n h hok; exact ih _ (step n e es h hok).1 (step n e es h hok).2

theorem history_induction_ok {I : Nucleo → Prop} (step : ∀ n e, I n → e.ok → I (applyEv n e)) :
    ∀ (evs : List Ev) (n : Nucleo), I n → (∀ e ∈ evs, e.ok) → I (evs.foldl applyEv n) :=
  history_induction (ok := fun _ es => ∀ e ∈ es, e.ok)
    (fun n e _ h hall => ⟨step n e h (hall e List.mem_cons_self), fun e' he' => hall e' (List.mem_cons_of_mem _ he')⟩)

theorem Inv20.step {n : Nucleo} (h : Inv20 n) (e : Ev) (hok : e.ok) : Inv20 (applyEv n e) := by
  rcases applyEv_eq n e with ⟨l, e'⟩ | ⟨c, rfl⟩ | ⟨p, s, rfl⟩ | ⟨o, rfl⟩
  · rw [e']; exact h.of_eq rfl rfl rfl rfl
  · exact h.restart c
  · exact h.reparse p s
  · exact h.tick o hok.1 hok.2

/-- C20: at every point of every history of injector(), clone, drop, reparse, restart(true|false) and tick (completing
    or timing out), `active_injectors` is the number of live injector handles of the current stream -/
theorem C20_history (evs : List Ev) (hok : ∀ e ∈ evs, e.ok) :
    (evs.foldl applyEv Nucleo.new).activeInjectors = liveInjectors (evs.foldl applyEv Nucleo.new) :=
  C20_count _ (history_induction_ok (fun _ e h => h.step e) evs Nucleo.new Inv20.new hok)

/-- the scenario of the crate's only test for this function, and one beyond it: an injector of the old
    stream stays alive across a restart and a tick and is not counted -/
example :
    let n := [Ev.inj 0, .inj 1, .restart false, .inj 2, .tick ⟨0, 0, true, true, id, id⟩, .drop 0].foldl applyEv Nucleo.new
    n.activeInjectors = 1 ∧ liveInjectors n = 1 ∧ n.injectors.length = 2 := by decide

end NucleoVerif.Nu
