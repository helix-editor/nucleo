import NucleoVerif.Gen.RunPlan
import NucleoVerif.Model.Nucleo
/-! # C06 / C07 (companion file) — the plan of `Worker::run`, translated from the source, is the model's

`Gen/RunPlan.lean` is regenerated on every run from `src/worker.rs`: the order of the steps of `Worker::run` and the
conditions that select them (trivial path for the empty pattern, `reset_matches` for a rescoring edit, the cancellable
rescoring pass over the previous matches for a changed pattern with matches, `process_new_items` otherwise, what a
cancelled sort leaves).  The run contracts of C06 and the history theorems of C07 / C12 / C19 are about `Worker.run`. -/
namespace NucleoVerif.Nu

variable (score : Nat → Item → Option Nat) (len : Item → Nat)

theorem C06_translated_run_plan (w : Worker) (status : PStatus) (cleared patternEmpty : Bool) (o : Obs) :
    Worker.run score len w status cleared patternEmpty o =
      if Gen.RunPlan.trivial_path patternEmpty then
        (processTrivial (resetMatches (w.begin cleared) o.seen0) o.seen1 o.count, o.shouldNotify)
      else
        let w1 := if Gen.RunPlan.resets status.rank then resetMatches (w.begin cleared) o.seen0 else w.begin cleared
        let pass : Worker × Nat × Nat :=
          if Gen.RunPlan.rescoring_pass status.rank w1.hits.isEmpty then
            ((rescore score (processTrivial w1 o.seen1 o.count) o).1, (rescore score (processTrivial w1 o.seen1 o.count) o).2,
              (processTrivial w1 o.seen1 o.count).hits.length)
          else ((processNew score w1 o).1, (processNew score w1 o).2, o.count - w1.lastSnapshot)
        Worker.finish len pass.1 pass.2.1 pass.2.2 o := by
  unfold Worker.run Gen.RunPlan.trivial_path
  cases patternEmpty
  · simp only [Bool.false_eq_true, if_false]
    unfold Worker.scorePass Gen.RunPlan.resets Gen.RunPlan.rescoring_pass
    cases status <;> simp [PStatus.rank]
  · simp

/-- the plan in the form C07, C12, C13 and C19 each restate under their own name -/
theorem C06_translated_run_plan_summary (w : Worker) (status : PStatus) (cleared : Bool) (o : Obs) :
    Worker.run score len w status cleared true o = (processTrivial (resetMatches (w.begin cleared) o.seen0) o.seen1 o.count, o.shouldNotify) ∧
    (Gen.RunPlan.trivial_path true = true ∧ Gen.RunPlan.trivial_path false = false) ∧
    (∀ s : PStatus, Gen.RunPlan.resets s.rank = decide (s = .rescore)) ∧
    (∀ (s : PStatus) (e : Bool), Gen.RunPlan.rescoring_pass s.rank e = (decide (s ≠ .unchanged) && !e)) :=
  ⟨rfl, ⟨rfl, rfl⟩, fun s => by cases s <;> rfl, fun s e => by cases s <;> cases e <;> rfl⟩

end NucleoVerif.Nu
