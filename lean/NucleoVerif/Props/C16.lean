import NucleoVerif.Lemmas.Tables
/-! # C16 — character normalization is a coherent, idempotent projection

All statements quantify over every natural number `c` (hence every Unicode scalar value).
The tables, their lengths and the dispatch of `normalizeLatin` are generated from the Rust
source on every run (`Gen/Tables.lean`); the reference (`Gen/RefData.lean`) comes from
python's `unicodedata`, independently of the repository. -/
namespace NucleoVerif
open Gen

/-- naive specification: linear scan over the first `n` *reference* pairs -/
def refFoldAux (c : Nat) : Nat → Nat
  | 0 => c
  | n+1 => if tblGet REF_FOLD_KEYS REF_FOLD_len n = c then tblGet REF_FOLD_VALS REF_FOLD_len n else refFoldAux c n

/-- Unicode simple case folding (statuses C+S) of `c` according to the reference data -/
def refFold (c : Nat) : Nat := refFoldAux c REF_FOLD_len

theorem fold_table_eq_reference :
    FOLD_len = REF_FOLD_len ∧ FOLD_KEYS = REF_FOLD_KEYS ∧ FOLD_VALS = REF_FOLD_VALS := by
  decide +kernel

/-- the binary search of the code finds exactly the entry whose key is `c` -/
theorem toLower_cases {P : Nat → Nat → Prop} (key : ∀ i, i < FOLD_len → P (foldKey i) (foldVal i))
    (other : ∀ c, (∀ i, i < FOLD_len → foldKey i ≠ c) → P c c) (c : Nat) : P c (toLower c) := by
  unfold toLower
  cases h : foldSearch c with
  | some i => obtain ⟨hi, rfl⟩ := foldSearch_some h; exact key i hi
  | none => exact other c (foldSearch_none h)

theorem toLower_of_not_key {c : Nat} (h : ∀ i, i < FOLD_len → foldKey i ≠ c) : toLower c = c := by
  unfold toLower
  cases hs : foldSearch c with
  | some i => exact absurd (foldSearch_some hs).2 (h i (foldSearch_some hs).1)
  | none => rfl

theorem refFoldAux_succ (c n : Nat) :
    refFoldAux c (n + 1) = if foldKey n = c then foldVal n else refFoldAux c n := by
  obtain ⟨hl, hk, hv⟩ := fold_table_eq_reference
  rw [refFoldAux, ← hl, ← hk, ← hv]
  rfl

theorem refFoldAux_of_not_key {c n : Nat} (h : ∀ i, i < n → foldKey i ≠ c) : refFoldAux c n = c := by
  induction n with
  | zero => rfl
  | succ n ih => rw [refFoldAux_succ, if_neg (h n (Nat.lt_succ_self n)), ih fun i hi => h i (Nat.lt_succ_of_lt hi)]

/-- the scan returns the last match; the keys are distinct -/
theorem refFoldAux_foldKey {i n : Nat} (hi : i < n) (hn : n ≤ FOLD_len) : refFoldAux (foldKey i) n = foldVal i := by
  induction n with
  | zero => omega
  | succ n ih =>
    rw [refFoldAux_succ]
    by_cases e : n = i
    · rw [e, if_pos rfl]
    · rw [if_neg fun h => e (foldKey_inj (by omega) (by omega) h), ih (by omega) (by omega)]

/-- **Case folding maps every character as Unicode simple case folding does.** -/
theorem C16_fold_eq_reference (c : Nat) : toLower c = refFold c := by
  have hl : REF_FOLD_len = FOLD_len := fold_table_eq_reference.1.symm
  unfold refFold
  rw [hl]
  refine toLower_cases (P := fun c v => v = refFoldAux c FOLD_len) ?_ ?_ c
  · exact fun i hi => (refFoldAux_foldKey hi (Nat.le_refl _)).symm
  · exact fun c h => (refFoldAux_of_not_key h).symm

theorem isUpper_spec (c : Nat) : isUpper c = true ↔ ∃ i, i < FOLD_len ∧ foldKey i = c := by
  unfold isUpper
  cases h : foldSearch c with
  | some i => exact ⟨fun _ => ⟨i, foldSearch_some h⟩, fun _ => rfl⟩
  | none => exact ⟨nofun, fun ⟨i, hi, e⟩ => absurd e (foldSearch_none h i hi)⟩

/-- **Case folding is idempotent.** -/
theorem C16_fold_idempotent (c : Nat) : toLower (toLower c) = toLower c := by
  refine toLower_cases (P := fun _ v => toLower v = v) ?_ ?_ c
  · exact fun i hi => toLower_of_not_key fun j hj e => foldVal_ne_foldKey hi hj e.symm
  · exact fun c h => toLower_of_not_key h

/-- **Case folding leaves ASCII other than A–Z untouched** (and maps A–Z to a–z). -/
theorem C16_fold_ascii (c : Nat) (h : c < 128) : toLower c = if 65 ≤ c ∧ c ≤ 90 then c + 32 else c := by
  revert h
  refine toLower_cases (P := fun c v => c < 128 → v = if 65 ≤ c ∧ c ≤ 90 then c + 32 else c) ?_ ?_ c
  · intro i hi h
    have h26 := lt_26_of_foldKey_lt hi h
    rw [(fold_AZ h26).1, (fold_AZ h26).2, if_pos (by omega)]
    omega
  · intro c hno h
    rw [if_neg fun hc => let ⟨i, hi, e⟩ := (foldKey_ascii h).mpr hc; hno i hi e]

theorem isUpper_ascii (c : Nat) (h : c < 128) : isUpper c = decide (65 ≤ c ∧ c ≤ 90) := by
  rw [Bool.eq_iff_iff, isUpper_spec, decide_eq_true_iff]
  exact foldKey_ascii h

/-- **Latin normalization changes only characters inside its documented ranges**
    (U+00A0..=U+029F, U+1E00..=U+1EFF, U+2070..=U+209F, as documented on the tables). -/
theorem C16_latin_only_blocks (c : Nat)
    (h1 : ¬ (0xa0 ≤ c ∧ c ≤ 0x29f)) (h2 : ¬ (0x1e00 ≤ c ∧ c ≤ 0x1eff)) (h3 : ¬ (0x2070 ≤ c ∧ c ≤ 0x209f)) :
    normalizeLatin c = c := by
  unfold normalizeLatin
  by_cases a : c < 0xa0 ∨ c ≥ 0x20a0
  · rw [if_pos a]
  rw [if_neg a, if_neg (by omega)]
  by_cases b : c < 0x1e00
  · rw [if_pos b]
  rw [if_neg b, if_neg (by omega), if_pos (by omega)]

theorem normalizeLatin_1ab (c : Nat) (h : 0xa0 ≤ c ∧ c ≤ 0x29f) :
    normalizeLatin c = tblGet LATIN_1AB LATIN_1AB_len (c - 0xa0) := by
  unfold normalizeLatin
  rw [if_neg (by omega), if_pos h.2]

theorem normalizeLatin_ext (c : Nat) (h : 0x1e00 ≤ c ∧ c ≤ 0x1eff) :
    normalizeLatin c = tblGet LATIN_EXTENDED_ADDITIONAL LATIN_EXTENDED_ADDITIONAL_len (c - 0x1e00) := by
  unfold normalizeLatin
  rw [if_neg (by omega), if_neg (by omega), if_neg (by omega), if_pos h.2]

theorem normalizeLatin_sup (c : Nat) (h : 0x2070 ≤ c ∧ c ≤ 0x209f) :
    normalizeLatin c = tblGet SUPERSCRIPTS_AND_SUBSCRIPTS SUPERSCRIPTS_AND_SUBSCRIPTS_len (c - 0x2070) := by
  unfold normalizeLatin
  rw [if_neg (by omega), if_neg (by omega), if_neg (by omega), if_neg (by omega), if_neg (by omega)]

/-- required image under the NFKD rule (reference data); the reference tables hold `0x1FFFFF` where
    the rule demands nothing (`none`) -/
def latinRef (c : Nat) : Option Nat :=
  let v :=
    if 0xa0 ≤ c ∧ c ≤ 0x29f then tblGet REF_LATIN_1AB REF_LATIN_1AB_len (c - 0xa0)
    else if 0x1e00 ≤ c ∧ c ≤ 0x1eff then tblGet REF_LATIN_EXTENDED_ADDITIONAL REF_LATIN_EXTENDED_ADDITIONAL_len (c - 0x1e00)
    else if 0x2070 ≤ c ∧ c ≤ 0x209f then tblGet REF_SUPERSCRIPTS_AND_SUBSCRIPTS REF_SUPERSCRIPTS_AND_SUBSCRIPTS_len (c - 0x2070)
    else 0x1FFFFF
  if v = 0x1FFFFF then none else some v

theorem normalizeLatin_entry (c : Nat)
    (h : (0xa0 ≤ c ∧ c ≤ 0x29f) ∨ (0x1e00 ≤ c ∧ c ≤ 0x1eff) ∨ (0x2070 ≤ c ∧ c ≤ 0x209f)) :
    normalizeLatin c < 0x110000 ∧ normalizeLatin (normalizeLatin c) = normalizeLatin c ∧
    ∀ want, latinRef c = some want → normalizeLatin c = want := by
  unfold latinRef
  rcases h with h | h | h
  · rw [normalizeLatin_1ab c h, if_pos h]
    exact latinEntryOk_spec latin1ab_ok_b (Nat.le_refl _) (c - 0xa0) (show _ < 512 by omega)
  · rw [normalizeLatin_ext c h, if_neg (show ¬(0xa0 ≤ c ∧ c ≤ 0x29f) by omega), if_pos h]
    exact latinEntryOk_spec latinExt_ok_b (Nat.le_refl _) (c - 0x1e00) (show _ < 256 by omega)
  · rw [normalizeLatin_sup c h, if_neg (show ¬(0xa0 ≤ c ∧ c ≤ 0x29f) by omega),
      if_neg (show ¬(0x1e00 ≤ c ∧ c ≤ 0x1eff) by omega), if_pos h]
    exact latinEntryOk_spec supsub_ok_b (Nat.le_refl _) (c - 0x2070) (show _ < 48 by omega)

theorem normalizeLatin_of_not_block {c : Nat}
    (h : ¬ ((0xa0 ≤ c ∧ c ≤ 0x29f) ∨ (0x1e00 ≤ c ∧ c ≤ 0x1eff) ∨ (0x2070 ≤ c ∧ c ≤ 0x209f))) :
    normalizeLatin c = c :=
  C16_latin_only_blocks c (fun a => h (.inl a)) (fun a => h (.inr (.inl a))) (fun a => h (.inr (.inr a)))

/-- **Latin normalization is idempotent.** -/
theorem C16_latin_idempotent (c : Nat) : normalizeLatin (normalizeLatin c) = normalizeLatin c := by
  by_cases h : (0xa0 ≤ c ∧ c ≤ 0x29f) ∨ (0x1e00 ≤ c ∧ c ≤ 0x1eff) ∨ (0x2070 ≤ c ∧ c ≤ 0x209f)
  · exact (normalizeLatin_entry c h).2.1
  · rw [normalizeLatin_of_not_block h, normalizeLatin_of_not_block h]

/-- **No table index is ever out of range** (the Rust indexing cannot panic) and the result is a scalar:
    out of range `tblGet` returns `0x1FFFFF`, which is not below `0x110000`. -/
theorem C16_latin_total (c : Nat) (hc : c < 0x110000) : normalizeLatin c < 0x110000 := by
  by_cases h : (0xa0 ≤ c ∧ c ≤ 0x29f) ∨ (0x1e00 ≤ c ∧ c ≤ 0x1eff) ∨ (0x2070 ≤ c ∧ c ≤ 0x209f)
  · exact (normalizeLatin_entry c h).1
  · rw [normalizeLatin_of_not_block h]; exact hc

/-- **Latin normalization leaves ASCII untouched.** -/
theorem C16_latin_ascii (c : Nat) (h : c < 128) : normalizeLatin c = c :=
  C16_latin_only_blocks c (by omega) (by omega) (by omega)

/-- **A character in the blocks whose compatibility decomposition is an ASCII letter or digit
    followed only by combining marks is mapped to exactly that letter or digit.** -/
theorem C16_latin_reference (c want : Nat) (h : latinRef c = some want) : normalizeLatin c = want := by
  by_cases hc : (0xa0 ≤ c ∧ c ≤ 0x29f) ∨ (0x1e00 ≤ c ∧ c ≤ 0x1eff) ∨ (0x2070 ≤ c ∧ c ≤ 0x209f)
  · exact (normalizeLatin_entry c hc).2.2 want h
  · unfold latinRef at h
    rw [if_neg fun a => hc (.inl a), if_neg fun a => hc (.inr (.inl a)), if_neg fun a => hc (.inr (.inr a))] at h
    cases h

theorem ite_ne {α : Type} {p : Prop} [Decidable p] {a b x : α} (ha : a ≠ x) (hb : b ≠ x) :
    (if p then a else b) ≠ x := by
  by_cases h : p
  · rwa [if_pos h]
  · rwa [if_neg h]

theorem charClassAscii_eq_upper (cfg : Cfg) (c : Nat) : charClassAscii cfg c = .upper ↔ 65 ≤ c ∧ c ≤ 90 := by
  unfold charClassAscii
  by_cases hu : 65 ≤ c ∧ c ≤ 90
  · rw [if_neg (by omega), if_pos hu]
    exact ⟨fun _ => hu, fun _ => rfl⟩
  · rw [if_neg hu]
    exact ⟨fun h' => absurd h' (ite_ne nofun (ite_ne nofun (ite_ne nofun (ite_ne nofun nofun)))),
      fun h' => absurd h' hu⟩

theorem cnormAscii_eq_normAscii (cfg : Cfg) (c : Nat) : cnormAscii cfg c = normAscii cfg c := by
  unfold cnormAscii normAscii
  simp only [charClassAscii_eq_upper]

theorem normChar_ascii (cfg : Cfg) (c : Nat) (h : c < 128) : normChar cfg c = normAscii cfg c := by
  unfold normChar normAscii
  simp only [C16_latin_ascii c h, ite_self]
  by_cases hi : cfg.ignoreCase = true
  · simp only [hi, true_and, if_true, C16_fold_ascii c h]
  · simp [hi]

/-- **`char_class_and_normalize` (scoring) and `normalize` (filtering, comparing) agree** for every
    character, configuration and representation. -/
theorem cnorm_eq_norm (cfg : Cfg) (r : Rep) (c : Nat) : cnorm cfg r c = norm cfg r c := by
  cases r with
  | ascii => exact cnormAscii_eq_normAscii cfg c
  | unicode =>
    show cnormChar cfg c = normChar cfg c
    unfold cnormChar
    split
    · next h => rw [cnormAscii_eq_normAscii, normChar_ascii cfg c h]
    · rfl

/-- **The result does not depend on the representation the character is held in.** -/
theorem C16_norm_rep_independent (cfg : Cfg) (c : Nat) (h : c < 128) :
    norm cfg .ascii c = norm cfg .unicode c :=
  (normChar_ascii cfg c h).symm

/-! `latinRef` demands something; `toLower` and `isUpper` on a non-ASCII key -/
example : latinRef 0xe4 = some 0x61 := by decide +kernel          -- ä ↦ a
example : latinRef 0x1e9b = some 0x73 := by decide +kernel        -- ẛ ↦ s (finding F7)
example : toLower 0x3c2 = 0x3c3 := by decide +kernel              -- ς ↦ σ
example : isUpper 0x3c2 = true := by decide +kernel

end NucleoVerif
