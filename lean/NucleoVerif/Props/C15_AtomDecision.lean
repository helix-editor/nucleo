import NucleoVerif.Props.C05_OneChar
import NucleoVerif.Props.C15
/-! # C15 (companion file) — what one atom decides

`C15_pattern` reduces a pattern to its atoms.  This file states what each atom's matcher call decides, in one theorem for
all five kinds (`kindDec`, a predicate on the normalized haystack), by collecting the decision theorems of C01 and C05. -/
namespace NucleoVerif
open Gen Spec

/-- the decision of each kind of atom, stated on the normalized haystack `L` (`h`: the raw haystack, whose leading /
    trailing whitespace the anchored kinds skip unless the needle itself starts / ends with whitespace) -/
def kindDec (k : AtomKind) (hrep : Rep) (h L n : List Nat) : Bool :=
  let lo := if isWs (n.head?.getD 0) then 0 else lead hrep h
  let tr := if isWs (n.getLast?.getD 0) then 0 else trail hrep h
  match k with
  | .fuzzy => subseqB n L
  | .substring => !(occAux n 0 L).isEmpty
  | .prefix => decide (lo + n.length ≤ h.length) && ((L.drop lo).take n.length == n)
  | .postfix => decide (tr + n.length ≤ h.length) && ((L.drop (h.length - tr - n.length)).take n.length == n)
  | .exact => decide (lo + tr ≤ h.length) && ((L.drop lo).take (h.length - lo - tr) == n) && decide (h.length - lo - tr = n.length)

/-- the matcher configuration an atom runs with -/
def Atom.cfg (a : Atom) (cfg : Cfg) : Cfg := { cfg with ignoreCase := a.ignoreCase, normalize := a.normalize }

/-- `n` occurs in `L` at `i` -/
def Occ (n L : List Nat) (i : Nat) : Prop := i + n.length ≤ L.length ∧ (L.drop i).take n.length = n

theorem occ_nonempty_iff (n L : List Nat) : (!(occAux n 0 L).isEmpty) = true ↔ ∃ i, Occ n L i := by
  constructor
  · intro hne
    cases ho : occAux n 0 L with
    | nil => rw [ho] at hne; cases hne
    | cons i l =>
      have hi : i ∈ occAux n 0 L := by rw [ho]; simp
      have := (occAux_mem n L 0 i).mp hi
      simp only [Nat.sub_zero] at this
      exact ⟨i, this.2.2.2, this.2.2.1⟩
  · rintro ⟨i, h1, h2⟩
    have : i ∈ occAux n 0 L := (occAux_mem n L 0 i).mpr ⟨Nat.zero_le _, by omega, by simpa using h2, by simpa using h1⟩
    cases ho : occAux n 0 L with
    | nil => rw [ho] at this; cases this
    | cons _ _ => rfl

theorem occ_one_char (cfg : Cfg) (hrep : Rep) (h : List Nat) (c : Nat) :
    (!(occurrences cfg hrep h [c]).isEmpty) = decide (c ∈ normHay cfg hrep h) := by
  rw [Bool.eq_iff_iff, decide_eq_true_iff]
  unfold occurrences
  rw [occ_nonempty_iff]
  constructor
  · rintro ⟨i, _, h2⟩
    exact List.mem_of_mem_drop (List.mem_of_mem_take (h2 ▸ List.mem_singleton_self c))
  · intro hm
    obtain ⟨i, hlt, hi⟩ := List.getElem_of_mem hm
    exact ⟨i, hlt, by rw [List.drop_eq_getElem_cons hlt, hi]; rfl⟩

/-- only the substring entry point needs the bonus condition (its candidate scan, C05) -/
theorem algo_decision (k : AtomKind) (cfg : Cfg) (ext : Ext) (hrep nrep : Rep) (h : List Nat) (n0 : Nat) (ns : List Nat)
    (hk1 : ¬ (hrep = .ascii ∧ nrep = .unicode)) (hasc : hrep = .ascii → ∀ x ∈ h, x < 128)
    (hb : k = .substring → 8 ≤ maxBonus cfg) (hn : (n0 :: ns).map (norm cfg nrep) = n0 :: ns) :
    (k.algo.run cfg ext hrep nrep h (n0 :: ns)).isSome = kindDec k hrep h (normHay cfg hrep h) (n0 :: ns) := by
  have hnA : nrep = .ascii → ∀ c ∈ n0 :: ns, normAscii cfg c = c := by
    intro hr
    rw [hr] at hn
    exact eq_self_of_map _ _ hn
  have hlast : ∀ d, (n0 :: ns).getLast?.getD d = (n0 :: ns).getLast?.getD n0 := fun d => by
    rw [List.getLast?_eq_some_getLast (by simp)]; rfl
  cases k with
  | fuzzy => exact C01_decision cfg ext hrep nrep h _ hk1 hn
  | substring =>
    show (substringMatch cfg ext hrep nrep h (n0 :: ns)).isSome = !(occAux (n0 :: ns) 0 (normHay cfg hrep h)).isEmpty
    cases ns with
    | nil =>
      rw [C05_substring_one_char cfg ext hrep nrep h n0 hk1 (by simpa using hn)]
      exact (occ_one_char cfg hrep h n0).symm
    | cons n1 ns' =>
      cases hrep with
      | unicode => exact C05_substring_entry_unicode cfg ext nrep h n0 n1 ns' (hb rfl) hn
      | ascii =>
        cases nrep with
        | unicode => exact absurd ⟨rfl, rfl⟩ hk1
        | ascii => exact C05_substring_entry_ascii cfg ext h n0 n1 ns' (hb rfl) (hasc rfl) (hnA rfl)
  | «prefix» =>
    show (prefixMatch cfg ext hrep nrep h (n0 :: ns)).isSome = _
    rw [C05_prefix cfg ext hrep nrep h n0 ns hk1 hn]
    simp only [kindDec, List.head?_cons, Option.getD_some]
    rfl
  | «postfix» =>
    show (postfixMatch cfg ext hrep nrep h (n0 :: ns)).isSome = _
    rw [C05_postfix cfg ext hrep nrep h n0 ns hk1 hn]
    simp only [kindDec, hlast 0]
  | «exact» =>
    show (exactMatch cfg ext hrep nrep h (n0 :: ns)).isSome = _
    rw [C05_exact cfg ext hrep nrep h n0 ns hk1 hn]
    simp only [kindDec, hlast 0, List.head?_cons, Option.getD_some]
    rfl

/-- **what an atom's matcher call decides**, for every kind, every configuration whose largest boundary bonus is at
    least 8 (all presets), and every representation pair the matcher handles (an ASCII-representation haystack with a
    code-point needle is finding K1) -/
theorem C15_atom_decision (a : Atom) (cfg : Cfg) (ext : Ext) (hrep : Rep) (h : List Nat) (n0 : Nat) (ns : List Nat)
    (hnd : a.needle = n0 :: ns) (hk1 : ¬ (hrep = .ascii ∧ a.needleRep = .unicode)) (hasc : hrep = .ascii → ∀ x ∈ h, x < 128)
    (hb : 8 ≤ maxBonus cfg) (hn : a.needle.map (norm (a.cfg cfg) a.needleRep) = a.needle) :
    (a.innerMatch cfg ext hrep h).isSome = kindDec a.kind hrep h (normHay (a.cfg cfg) hrep h) a.needle := by
  rw [hnd] at hn ⊢
  unfold Atom.innerMatch
  rw [hnd]
  exact algo_decision a.kind (a.cfg cfg) ext hrep a.needleRep h n0 ns hk1 hasc (fun _ => hb) hn

end NucleoVerif
