import NucleoVerif.Lemmas.Pattern
/-! # C14 — pattern text is parsed by one grammar regardless of the characters involved

The markers, the splitter on escaped text, and the round trip `escape` ↦ `parsePattern` on ASCII text
(`Props/C14_OneGrammar.lean` has it for every text). -/
namespace NucleoVerif
open Gen

/-- `!` negates, `\!` is a literal `!` -/
theorem C14_marker_negation (seg : Seg) (r : List Nat) (case : CaseMatching) (norm : Normalization) :
    (parseAtom seg (33 :: r) case norm).negative = true ∧
    (parseAtom seg (92 :: 33 :: r) case norm).negative = false :=
  ⟨rfl, rfl⟩

/-- `^` = prefix, `'` = substring, `$` suffix = postfix (exact when combined), `!` turns fuzzy into substring -/
theorem C14_marker_kinds (seg : Seg) (case : CaseMatching) (norm : Normalization) :
    (parseAtom seg [94, 97] case norm).kind = .prefix ∧ (parseAtom seg [39, 97] case norm).kind = .substring ∧
    (parseAtom seg [97, 36] case norm).kind = .postfix ∧ (parseAtom seg [94, 97, 36] case norm).kind = .exact ∧
    (parseAtom seg [39, 97, 36] case norm).kind = .exact ∧ (parseAtom seg [33, 97] case norm).kind = .substring ∧
    (parseAtom seg [33, 94, 97] case norm).kind = .prefix ∧ (parseAtom seg [33, 97, 36] case norm).kind = .postfix ∧
    (parseAtom seg [92, 94, 97] case norm).kind = .fuzzy ∧ (parseAtom seg [92, 39, 97] case norm).kind = .fuzzy ∧
    (parseAtom seg [97, 92, 36] case norm).kind = .fuzzy := by
  simp only [parseAtom, newInner_kind]
  decide

def escSpaces : List Nat → List Nat
  | [] => []
  | c :: r => if c = 32 then 92 :: 32 :: escSpaces r else c :: escSpaces r

def isMarker (c : Nat) : Bool := c = 33 || c = 94 || c = 39

/-- the escaped form of a literal text -/
def escape (t : List Nat) : List Nat :=
  (if (t.head?.map isMarker).getD false then [92] else []) ++
  (if t.getLast? = some 36 then escSpaces t.dropLast ++ [92, 36] else escSpaces t)

/-- the texts `escape` works for.  `noEscMarker`: `\!a` has no escaped form (`\!a` itself reads as the literal `!a`) -/
structure Escapable (t : List Nat) : Prop where
  nonempty : t ≠ []
  ws : ∀ c ∈ t, isWs c = true → c = 32
  noEscMarker : ∀ m r, t = 92 :: m :: r → isMarker m = false

theorem escSpaces_head (t : List Nat) : ∀ d r, escSpaces t = d :: r → d ≠ 32 := by
  intro d r h
  cases t with
  | nil => cases h
  | cons c cs =>
    simp only [escSpaces] at h
    split at h
    · cases h; decide
    · next hc => cases h; exact hc

theorem replaceEscSpace_escSpaces : ∀ t : List Nat, replaceEscSpace (escSpaces t) = t := by
  intro t
  induction t with
  | nil => rfl
  | cons c r ih =>
    simp only [escSpaces]
    split
    · next h =>
      subst h
      simp [replaceEscSpace, ih]
    · cases hr : escSpaces r with
      | nil =>
        rw [hr] at ih
        simp only [replaceEscSpace] at ih ⊢
        rw [← ih]
      | cons d r' =>
        rw [hr] at ih
        have hd := escSpaces_head r d r' hr
        simp only [replaceEscSpace]
        have : ¬ (c = 92 ∧ d = 32) := fun hh => hd hh.2
        simp only [this, if_false, ih]

/-- every whitespace character is preceded by a backslash (`saw`: the character in front of the list is a backslash) -/
def wsOK : List Nat → Bool → Bool
  | [], _ => true
  | c :: cs, saw => (!(isWs c) || saw) && wsOK cs (decide (c = 92))

theorem patternAtomsGo_wsOK : ∀ (s : List Nat) (saw : Bool) (cur : List Nat), wsOK s saw = true →
    patternAtomsGo s saw cur = [cur.reverse ++ s] := by
  intro s
  induction s with
  | nil => intro saw cur _; simp [patternAtomsGo]
  | cons c cs ih =>
    intro saw cur h
    simp only [wsOK, Bool.and_eq_true, Bool.or_eq_true, Bool.not_eq_true'] at h
    unfold patternAtomsGo
    have hc : ¬ (isWs c = true ∧ (!saw) = true) := by
      intro ⟨hw, hs⟩
      rcases h.1 with h1 | h1
      · rw [hw] at h1; cases h1
      · rw [h1] at hs; cases hs
    simp only [hc, if_false]
    rw [ih _ _ h.2]
    simp

theorem wsOK_noWs : ∀ (b : List Nat) (saw : Bool), (∀ c ∈ b, isWs c = false) → wsOK b saw = true := by
  intro b
  induction b with
  | nil => intro _ _; rfl
  | cons c cs ih =>
    intro saw h
    simp only [wsOK, h c (by simp), Bool.not_false, Bool.true_or, Bool.true_and]
    exact ih _ (fun d hd => h d (by simp [hd]))

theorem wsOK_append_noWs : ∀ (a b : List Nat) (saw : Bool), (∀ c ∈ b, isWs c = false) →
    wsOK (a ++ b) saw = wsOK a saw := by
  intro a
  induction a with
  | nil => intro b saw h; simp only [List.nil_append, wsOK]; exact wsOK_noWs b saw h
  | cons c cs ih => intro b saw h; simp only [List.cons_append, wsOK, ih b _ h]

theorem wsOK_escSpaces : ∀ (u : List Nat) (saw : Bool), (∀ c ∈ u, isWs c = true → c = 32) →
    wsOK (escSpaces u) saw = true := by
  intro u
  induction u with
  | nil => intro _ _; rfl
  | cons c cs ih =>
    intro saw h
    have ih' := fun s => ih s (fun d hd => h d (by simp [hd]))
    simp only [escSpaces]
    split
    · have h92 : isWs 92 = false := by decide
      simp [wsOK, ih', h92]
    · next hc =>
      have : isWs c = false := by
        cases hw : isWs c with
        | false => rfl
        | true => exact absurd (h c (by simp) hw) hc
      simp only [wsOK, this, Bool.not_false, Bool.true_or, Bool.true_and, ih']

/-- **splitting happens only at unescaped whitespace**: a text whose only whitespace is U+0020 is,
    with its spaces escaped, a single atom -/
theorem C14_escaped_single_atom (t : List Nat) (hws : ∀ c ∈ t, isWs c = true → c = 32) :
    patternAtoms (escSpaces t) = [escSpaces t] := by
  unfold patternAtoms
  rw [patternAtomsGo_wsOK _ _ _ (wsOK_escSpaces t false hws)]
  rfl

/-! whitespace of any kind splits unless it is an escaped space -/
example : patternAtoms [97, 32, 98] = [[97], [98]] := by decide
example : patternAtoms [97, 92, 32, 98] = [[97, 92, 32, 98]] := by decide
example : patternAtoms [97, 0x3000, 98] = [[97], [98]] := by decide   -- any `char::is_whitespace`

theorem escSpaces_cons_eq (c : Nat) (cs : List Nat) :
    escSpaces (c :: cs) = (if c = 32 then [92, 32] else [c]) ++ escSpaces cs := by
  by_cases h : c = 32 <;> simp [escSpaces, h]

theorem getLast?_escSpaces (u : List Nat) : (escSpaces u).getLast? = u.getLast? := by
  induction u with
  | nil => rfl
  | cons c cs ih =>
    have : (if c = 32 then [92, 32] else [c]).getLast? = some c := by by_cases h : c = 32 <;> simp [h]
    rw [escSpaces_cons_eq, List.getLast?_append, ih, this, List.getLast?_cons]
    cases cs.getLast? <;> rfl

theorem dropLast_append_of_getLast? {l : List Nat} {x : Nat} (h : l.getLast? = some x) : l.dropLast ++ [x] = l := by
  obtain ⟨ys, rfl⟩ := List.getLast?_eq_some_iff.mp h
  rw [List.dropLast_concat]

/-- the escaped form without the leading marker escape -/
def bodyOf (t : List Nat) : List Nat :=
  if t.getLast? = some 36 then escSpaces t.dropLast ++ [92, 36] else escSpaces t

theorem escape_eq (t : List Nat) : escape t = (if (t.head?.map isMarker).getD false then [92] else []) ++ bodyOf t := rfl

theorem strip_plain (body : List Nat) (hx : ∀ x r, body = x :: r → isMarker x = false)
    (hm : ∀ m r, body = 92 :: m :: r → isMarker m = false) :
    stripNeg body = (false, body) ∧ stripKind body = (.fuzzy, body) :=
  ⟨stripNeg_plain body (fun _ e => absurd (hx _ _ e) (by decide)) (fun _ e => absurd (hm _ _ e) (by decide)),
   stripKind_plain body (fun _ e => absurd (hx _ _ e) (by decide)) (fun _ e => absurd (hx _ _ e) (by decide))
     (fun _ e => absurd (hm _ _ e) (by decide)) (fun _ e => absurd (hm _ _ e) (by decide))⟩

theorem bodyOf_cons (c : Nat) (r : List Nat) :
    bodyOf (c :: r) =
      if r = [] ∧ c = 36 then [92, 36] else (if c = 32 then [92, 32] else [c]) ++ bodyOf r := by
  unfold bodyOf
  cases r with
  | nil => by_cases h : c = 36 <;> simp [h, escSpaces]
  | cons d r' =>
    rw [List.getLast?_cons_cons, List.dropLast_cons_cons, if_neg (fun h => nomatch h.1 : ¬(d :: r' = [] ∧ c = 36))]
    by_cases hl : (d :: r').getLast? = some 36
    · rw [if_pos hl, if_pos hl, escSpaces_cons_eq, List.append_assoc]
    · rw [if_neg hl, if_neg hl, escSpaces_cons_eq]

theorem bodyOf_head (c : Nat) (r : List Nat) :
    ∃ tl, bodyOf (c :: r) = (if c = 32 ∨ (r = [] ∧ c = 36) then 92 else c) :: tl := by
  rw [bodyOf_cons]
  by_cases h36 : r = [] ∧ c = 36
  · exact ⟨_, by rw [if_pos h36, if_pos (Or.inr h36)]⟩
  · by_cases h32 : c = 32
    · exact ⟨_, by rw [if_neg h36, if_pos h32, if_pos (Or.inl h32)]; rfl⟩
    · exact ⟨_, by rw [if_neg h36, if_neg h32, if_neg (by simp [h32, h36])]; rfl⟩

theorem bodyOf_plain (c : Nat) (rest : List Nat) (hc : isMarker c = false)
    (hne : ∀ m r, c :: rest = 92 :: m :: r → isMarker m = false) :
    (∀ x r, bodyOf (c :: rest) = x :: r → isMarker x = false) ∧
    (∀ m r, bodyOf (c :: rest) = 92 :: m :: r → isMarker m = false) := by
  obtain ⟨tl, htl⟩ := bodyOf_head c rest
  constructor
  · intro x r e
    rw [htl] at e
    rw [← (List.cons.inj e).1]
    by_cases h : c = 32 ∨ (rest = [] ∧ c = 36)
    · rw [if_pos h]; decide
    · rw [if_neg h]; exact hc
  · intro m r e
    rw [bodyOf_cons] at e
    by_cases h36 : rest = [] ∧ c = 36
    · rw [if_pos h36] at e
      rw [← (List.cons.inj (List.cons.inj e).2).1]; decide
    rw [if_neg h36] at e
    by_cases h32 : c = 32
    · rw [if_pos h32] at e
      rw [← (List.cons.inj (List.cons.inj e).2).1]; decide
    rw [if_neg h32] at e
    -- `c = 92`, and `m` is the first character of the body of `rest`
    obtain ⟨hc92, (e' : bodyOf rest = m :: r)⟩ := List.cons.inj e
    cases rest with
    | nil => cases e'
    | cons d r' =>
      obtain ⟨tl', htl'⟩ := bodyOf_head d r'
      rw [htl'] at e'
      rw [← (List.cons.inj e').1]
      by_cases h : d = 32 ∨ (r' = [] ∧ d = 36)
      · rw [if_pos h]; decide
      · rw [if_neg h]; exact hne d r' (by rw [hc92])

theorem stripNegKind_escape (t : List Nat) (he : Escapable t) :
    (stripNeg (escape t)).1 = false ∧ stripKind (stripNeg (escape t)).2 = (.fuzzy, bodyOf t) := by
  rw [escape_eq]
  cases t with
  | nil => exact absurd rfl he.nonempty
  | cons c rest =>
    by_cases hmk : isMarker c = true
    · -- the text starts with a marker: `\` + marker + …
      obtain ⟨tl, htl⟩ := bodyOf_head c rest
      have : ¬ (c = 32 ∨ (rest = [] ∧ c = 36)) := by
        rintro (rfl | ⟨_, rfl⟩) <;> exact absurd hmk (by decide)
      rw [if_neg this] at htl
      rw [htl, List.head?_cons, Option.map_some, Option.getD_some, if_pos hmk]
      have hc : c = 33 ∨ c = 94 ∨ c = 39 := by simpa [isMarker, or_assoc] using hmk
      rcases hc with rfl | rfl | rfl <;> exact ⟨rfl, rfl⟩
    · rw [List.head?_cons, Option.map_some, Option.getD_some, if_neg hmk, List.nil_append]
      have pl := bodyOf_plain c rest (by simpa using hmk) he.noEscMarker
      have sp := strip_plain _ pl.1 pl.2
      rw [sp.1]
      exact ⟨rfl, sp.2⟩

theorem stripDollar_bodyOf (t : List Nat) :
    stripDollar .fuzzy (bodyOf t) =
      (.fuzzy, decide (t.getLast? = some 36), escSpaces (if t.getLast? = some 36 then t.dropLast else t)) := by
  unfold bodyOf
  by_cases hl : t.getLast? = some 36
  · rw [if_pos hl, if_pos hl, stripDollar_escaped, decide_eq_true hl]
  · rw [if_neg hl, if_neg hl, stripDollar_plain _ _ (getLast?_escSpaces t ▸ hl), decide_eq_false hl]

theorem wsOK_bodyOf (t : List Nat) (hws : ∀ c ∈ t, isWs c = true → c = 32) (saw : Bool) :
    wsOK (bodyOf t) saw = true := by
  unfold bodyOf
  by_cases hl : t.getLast? = some 36
  · rw [if_pos hl, wsOK_append_noWs _ _ _ (by decide)]
    exact wsOK_escSpaces _ _ fun c hc => hws c (List.dropLast_subset t hc)
  · rw [if_neg hl]
    exact wsOK_escSpaces _ _ hws

theorem patternAtoms_escape (t : List Nat) (he : Escapable t) : patternAtoms (escape t) = [escape t] := by
  unfold patternAtoms
  rw [patternAtomsGo_wsOK]
  · rfl
  · rw [escape_eq]
    by_cases hm : (t.head?.map isMarker).getD false = true
    · rw [if_pos hm]
      exact wsOK_bodyOf t he.ws true
    · rw [if_neg hm]
      exact wsOK_bodyOf t he.ws false

theorem parseAtom_escape (seg : Seg) (t : List Nat) (he : Escapable t) (case : CaseMatching) (norm : Normalization) :
    parseAtom seg (escape t) case norm =
      newInner seg (escSpaces (if t.getLast? = some 36 then t.dropLast else t)) case norm .fuzzy true
        (decide (t.getLast? = some 36)) := by
  unfold parseAtom
  simp only [(stripNegKind_escape t he).1, (stripNegKind_escape t he).2, stripDollar_bodyOf, Bool.false_eq_true,
    false_and, if_false]
  exact Atom.with_negative _ (newInner_negative ..)

/-- the round trip from the one fact about `new_inner` it needs (the grammar part is character-independent) -/
theorem literal_roundtrip_of (seg : Seg) (t : List Nat) (he : Escapable t) (case : CaseMatching) (norm : Normalization)
    (h : newInner seg (escSpaces (if t.getLast? = some 36 then t.dropLast else t)) case norm .fuzzy true
        (decide (t.getLast? = some 36)) = newInner seg t case norm .fuzzy false false)
    (hne : (newInner seg t case norm .fuzzy false false).needle.isEmpty = false) :
    parsePattern seg (escape t) case norm = [newInner seg t case norm .fuzzy false false] := by
  unfold parsePattern
  rw [patternAtoms_escape t he, List.map_singleton, parseAtom_escape seg t he, h]
  simp [hne]

theorem all_escSpaces (u : List Nat) : (escSpaces u).all (· < 128) = u.all (· < 128) := by
  induction u with
  | nil => rfl
  | cons c r ih =>
    rw [escSpaces_cons_eq, List.all_append, ih, List.all_cons]
    by_cases h : c = 32 <;> simp [h]

theorem newInner_escaped_ascii (seg : Seg) (u : List Nat) (hu : u.all (· < 128) = true) (case : CaseMatching)
    (norm : Normalization) (kind : AtomKind) (ad : Bool) :
    newInner seg (escSpaces u) case norm kind true ad = newInner seg u case norm kind false ad := by
  unfold newInner
  simp only [all_escSpaces, hu, if_true, replaceEscSpace_escSpaces, Bool.false_eq_true, if_false]

/-- a literal `$` appended by the `\$` escape is the text's own last character -/
theorem newInner_dollar_ascii (seg : Seg) (u : List Nat) (hu : u.all (· < 128) = true) (case : CaseMatching)
    (norm : Normalization) (kind : AtomKind) :
    newInner seg u case norm kind false true = newInner seg (u ++ [36]) case norm kind false false := by
  have h1 : (u ++ [36]).all (· < 128) = true := by rw [List.all_append, hu]; rfl
  unfold newInner
  simp only [h1, hu, if_true, Bool.false_eq_true, if_false]
  cases case <;> simp [asciiLower]

/-- **parsing the escaped form of a literal ASCII text yields exactly one positive fuzzy atom, the atom built
    from that text itself** (no escape processing, no marker) — for every escapable text (non-empty, its only
    whitespace is U+0020, not starting with a backslash followed by a marker: such a text has no escaped form),
    every `CaseMatching` and `Normalization`. -/
theorem C14_literal_roundtrip_ascii (seg : Seg) (t : List Nat) (he : Escapable t) (hasc : ∀ c ∈ t, c < 128)
    (case : CaseMatching) (norm : Normalization) :
    parsePattern seg (escape t) case norm = [newInner seg t case norm .fuzzy false false] := by
  have ha : t.all (· < 128) = true := List.all_eq_true.mpr fun c hc => decide_eq_true (hasc c hc)
  refine literal_roundtrip_of seg t he case norm ?_ ?_
  · by_cases hl : t.getLast? = some 36
    · have hcat := dropLast_append_of_getLast? hl
      have hd : t.dropLast.all (· < 128) = true := by
        rw [← hcat, List.all_append, Bool.and_eq_true] at ha
        exact ha.1
      rw [if_pos hl, decide_eq_true hl, newInner_escaped_ascii seg _ hd, newInner_dollar_ascii seg _ hd, hcat]
    · rw [if_neg hl, decide_eq_false hl, newInner_escaped_ascii seg _ ha]
  · unfold newInner
    simp only [ha, if_true, Bool.false_eq_true, if_false]
    cases t with
    | nil => exact absurd rfl he.nonempty
    | cons c cs => cases case <;> simp

/-- with case respected the needle is the text itself -/
theorem C14_literal_needle_ascii (seg : Seg) (t : List Nat) (he : Escapable t) (hasc : ∀ c ∈ t, c < 128) (norm : Normalization) :
    (parsePattern seg (escape t) .respect norm).map (fun a => (a.negative, a.kind, a.needle)) = [(false, .fuzzy, t)] := by
  rw [C14_literal_roundtrip_ascii seg t he hasc]
  have h2 : t.all (· < 128) = true := List.all_eq_true.mpr fun c hc => decide_eq_true (hasc c hc)
  simp [newInner, h2]

/-- the hypotheses are satisfiable and the escaped form is what one expects: `!a $` ↦ `\!a\ \$` ↦ needle `!a $` -/
example : Escapable [33, 97, 32, 36] ∧ escape [33, 97, 32, 36] = [92, 33, 97, 92, 32, 92, 36] ∧
    (parsePattern (fun l => l) (escape [33, 97, 32, 36]) .respect .smart).map (fun a => (a.negative, a.kind, a.needle))
      = [(false, .fuzzy, [33, 97, 32, 36])] := by
  refine ⟨⟨by decide, by decide, by intro m r h; cases h⟩, by decide, by decide⟩

end NucleoVerif
