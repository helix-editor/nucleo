import NucleoVerif.Lemmas.Tick
import NucleoVerif.Lemmas.Run
/-! # C13 — no lost wake-up

The full property is false for the code (finding K2): `C13_lost_wakeup_witness` exhibits the schedule in the model, and
the correspondence run replays it on the real `Nucleo` with the run parked at the `run.end` yield point.  What holds:
whenever `tick` reports `running`, it leaves `should_notify` armed, so every run that reads the flag after the tick has
returned does notify, unless it is cancelled. -/
namespace NucleoVerif.Nu

/-- a `tick_inner` leaves a run pending only if it reports `running`, and then it has armed the flag -/
theorem tickPlain_running (m : Nucleo) (o : TickOracle) :
    ((m.tickPlain o).1.pending.isSome = true → (m.tickPlain o).2.running = true) ∧
    ((m.tickPlain o).2.running = true → (m.tickPlain o).1.shouldNotify = true) := by
  rcases m.tickPlain_shapes o with ⟨_, e⟩ | ⟨_, e⟩ | ⟨_, e⟩
  · rw [e]
    exact ⟨fun _ => rfl, fun _ => rfl⟩
  · rw [e]
    exact ⟨fun _ => rfl, fun _ => rfl⟩
  · rw [e]
    exact ⟨nofun, nofun⟩

theorem C13_partial (n : Nucleo) (o : TickOracle) (h : (n.tick o).2.running = true) :
    (n.tick o).1.shouldNotify = true := by
  obtain ⟨m, o', e1, e2⟩ := n.tick_deciding o
  rw [e1]
  exact (tickPlain_running m o').2 (e2 ▸ h)

/-- a run with the empty pattern that reads the flag armed calls `notify` -/
theorem run_notifies (score : Nat → Item → Option Nat) (len : Item → Nat) (w : Worker) (st : PStatus) (cl : Bool) (o : Obs)
    (hn : o.shouldNotify = true) : (w.run score len st cl true o).2 = true := by
  rw [run_emp]
  exact hn

/-- the lost wake-up (finding K2): first tick of a fresh matcher, the spawned run reads
    `should_notify` (still false) and has not released the worker lock yet when the tick's second
    lock attempt times out; the tick re-arms the flag and reports `running`, the run ends silently -/
theorem C13_lost_wakeup_witness :
    let o : TickOracle := { count1 := 0, count2 := 0, lock1 := false, lock2 := false, run0 := id, run1 := id }
    let r := Nucleo.new.tick o
    -- the value of should_notify between the two tick_inner calls, which is what the run reads
    let flagReadByRun := ((({ Nucleo.new with shouldNotify := false } : Nucleo).tickCancelFirst o).1).shouldNotify
    let obs : Obs := { seen0 := fun _ => none, seen1 := fun _ => none, count := 0, inFlightOrder := id,
                       sawCancel := fun _ => false, sortCanceled := false, shouldNotify := flagReadByRun }
    r.2.running = true ∧ flagReadByRun = false ∧
    (r.1.worker.run (fun _ _ => none) (fun _ => 0) .unchanged true true obs).2 = false := by
  decide

end NucleoVerif.Nu
