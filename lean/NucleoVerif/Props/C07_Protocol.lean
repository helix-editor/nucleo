import NucleoVerif.Props.C07_Cancelled
import NucleoVerif.Props.C19
/-! # C07 (companion file) — the worker-level run facts carried through the tick protocol

The runs are the ones `Nucleo::tick` starts and joins: every run in flight is joined by a later `tick_inner` that holds
the worker lock, a cancelling tick joins the run it cancels and spawns the next one, `restart` makes the next run a
cleared one on the new stream.  The invariant `P07` carries the worker-level facts (`Between`, or the start condition of
the pending run) through every event; a tick that reports `running = false` then leaves a snapshot that is the right
list.  Which pattern ids denote the empty pattern is a parameter (`emp`): a run for it takes the trivial path and
cannot be cancelled. -/
namespace NucleoVerif.Nu

variable (score : Nat → Item → Option Nat) (len : Item → Nat)
-- the eventual content of every item stream
variable (S : Nat → Nat → Option Item)
-- which pattern ids are the empty pattern
variable (emp : Nat → Bool)

def EmpOk : Prop := ∀ p it, emp p = true → score p it = some 0

def Narrows (pNew pOld : Nat) : Prop := ∀ it, (score pNew it).isSome = true → (score pOld it).isSome = true

theorem Narrows.refl (p : Nat) : Narrows score p p := fun _ h => h
theorem Narrows.trans {a b c : Nat} (h1 : Narrows score a b) (h2 : Narrows score b c) : Narrows score a c := fun it h => h2 it (h1 it h)

/-- the start condition of a run that does not clear the worker, by status -/
def StartKeep (st : PStatus) (w : Worker) : Prop :=
  (st = .rescore ∧ BK w) ∨ (st = .update ∧ Loose score (S w.stream) w.pattern w) ∨ (st = .unchanged ∧ Good score (S w.stream) w)

def StartOk (p : Pending) (w : Worker) : Prop := p.cleared = true ∨ StartKeep score S p.status w

/-- the observations of a run on stream `S w.stream` -/
structure RunObs (st : PStatus) (w : Worker) (o : Obs) (mayCancel : Bool) : Prop where
  env : ObsEnv (S w.stream) w o
  /-- it saw the cancel flag (only if it may), or never -/
  cancel : (mayCancel = true ∧ o.canceled (Worker.scorePass score (w.begin false) st o).2.2 = true) ∨ RunEnv (S w.stream) w o

/-- every index the worker accounts for holds a published item of the stream -/
def Pub (Sx : Nat → Option Item) (w : Worker) : Prop := ∀ i ∈ processed w, (Sx i).isSome = true

theorem Pub.of_empty (Sx : Nat → Option Item) (w : Worker) (h2 : w.lastSnapshot = 0) : Pub Sx w := by
  intro i hi
  rw [processed_of_zero h2] at hi
  cases hi

theorem Pub.congr {Sx : Nat → Option Item} {w w' : Worker} (h : Pub Sx w) (h2 : w'.inFlight = w.inFlight) (h3 : w'.lastSnapshot = w.lastSnapshot) :
    Pub Sx w' := by
  intro i hi
  exact h i (processed_congr h2 h3 ▸ hi)

theorem run_pub (Sx : Nat → Option Item) (w : Worker) (st : PStatus) (pe : Bool) (o : Obs) (bk : BK w) (env : ObsEnv Sx w o)
    (hp : Pub Sx w) : Pub Sx (Worker.run score len w st false pe o).1 := by
  intro i hi
  rcases (run_tracks score len w st pe o bk env.order).seen env i hi with h | ⟨it, _, h⟩
  · exact hp i h
  · rw [h]; rfl

theorem idealHits_emp (hemp : EmpOk score emp) (Sx : Nat → Option Item) (p : Nat) (hp : emp p = true) (P : List Nat)
    (h : ∀ i ∈ P, (Sx i).isSome = true) : idealHits score Sx p P = P.map mk0 := by
  rw [← List.filterMap_eq_map]
  refine filterMap_congr (fun i hi => ?_)
  obtain ⟨it, hs⟩ := Option.isSome_iff_exists.mp (h i hi)
  rw [hs, Option.bind_some, hemp p it hp]
  rfl

theorem run_emp_status (w : Worker) (st : PStatus) (c : Bool) (o : Obs) :
    Worker.run score len w st c true o = Worker.run score len w .unchanged c true o :=
  (run_emp score len w st c o).trans (run_emp score len w .unchanged c o).symm

/-- a run for the empty pattern leaves the right list from any state with intact bookkeeping whose accounted items are
    published ones; it is never marked cancelled -/
theorem run_emp_good (hemp : EmpOk score emp) (Sx : Nat → Option Item) (w : Worker) (st : PStatus) (o : Obs) (bk : BK w) (env : ObsEnv Sx w o)
    (hp : Pub Sx w) (he : emp w.pattern = true) :
    Good score Sx (Worker.run score len w st false true o).1 ∧ (Worker.run score len w st false true o).1.wasCanceled = false ∧
    (Worker.run score len w st false true o).1.lastSnapshot = o.count ∧
    (Worker.run score len w st false true o).1.hits = (processed (Worker.run score len w st false true o).1).map mk0 := by
  have hpub := run_pub score len Sx w st true o bk env hp
  rw [run_emp_status] at hpub ⊢
  have h := C06_trivial_run_contract score len w o bk env.countGe
  simp only at h
  obtain ⟨h1, h2, _, h4⟩ := h
  have hpat : (Worker.run score len w .unchanged false true o).1.pattern = w.pattern :=
    (Worker.run_runLike score len .unchanged false true o).pattern w
  refine ⟨⟨?_, h2⟩, (run_control score len w .unchanged false true o).2.2.2.1, h4, h1⟩
  rw [h1, hpat, idealHits_emp score emp hemp Sx w.pattern he _ hpub]

theorem StartKeep.bk {st : PStatus} {w : Worker} (h : StartKeep score S st w) : BK w := by
  rcases h with ⟨_, b⟩ | ⟨_, l⟩ | ⟨_, g⟩
  · exact b
  · exact l.bk
  · exact g.bk

/-- one run from its start condition, the empty-pattern path being taken exactly for the empty pattern -/
theorem run_between (hemp : EmpOk score emp) (w : Worker) (st : PStatus) (o : Obs) (mc : Bool)
    (hstart : StartKeep score S st w) (hpub : Pub (S w.stream) w) (ho : RunObs score S st w o mc) :
    Between score (S w.stream) (Worker.run score len w st false (emp w.pattern) o).1 ∧
    (mc = false → (Worker.run score len w st false (emp w.pattern) o).1.wasCanceled = false) ∧
    Pub (S w.stream) (Worker.run score len w st false (emp w.pattern) o).1 := by
  have bk := hstart.bk score S
  have key : Between score (S w.stream) (Worker.run score len w st false (emp w.pattern) o).1 ∧
      (mc = false → (Worker.run score len w st false (emp w.pattern) o).1.wasCanceled = false) := by
    cases he : emp w.pattern with
    | true =>
      obtain ⟨g, hwc, hl, _⟩ := run_emp_good score len emp hemp (S w.stream) w st o bk ho.env hpub he
      exact ⟨⟨g.loose score (hl ▸ ho.env.countLt), fun _ => g⟩, fun _ => hwc⟩
    | false =>
      refine ⟨Between.of_run score len _ w st o hstart ho.env (ho.cancel.imp (·.2) id), fun hmc => ?_⟩
      rcases ho.cancel with ⟨h, _⟩ | renv
      · rw [hmc] at h; cases h
      · exact (run_completed score len _ w st o renv hstart).2.2.2
  exact ⟨key.1, key.2, run_pub score len _ w st _ o bk ho.env hpub⟩

/-- `w'` is the result of the pending run `p` on the worker `w`, for some observations consistent with the stream;
    `mayCancel` says whether the run may have seen the cancel flag -/
def RunsAs (p : Pending) (w w' : Worker) (mayCancel : Bool) : Prop :=
  ∃ o : Obs, w' = (Worker.run score len w p.status p.cleared (emp w.pattern) o).1 ∧
    RunObs score S p.status (if p.cleared then w.clearedState else w) o mayCancel

/-- a pending run is a run without clearing from the worker it effectively starts from (the cleared state after a
    restart), which meets its start condition -/
theorem RunsAs.start {p : Pending} {w w' : Worker} {mc : Bool} (hr : RunsAs score len S emp p w w' mc) (hs : StartOk score S p w)
    (hpub : p.cleared = false → Pub (S w.stream) w) :
    ∃ (w0 : Worker) (o : Obs), w' = (Worker.run score len w0 p.status false (emp w0.pattern) o).1 ∧ w0.stream = w.stream ∧
      StartKeep score S p.status w0 ∧ Pub (S w0.stream) w0 ∧ RunObs score S p.status w0 o mc := by
  obtain ⟨o, hw', ho⟩ := hr
  cases hc : p.cleared with
  | true =>
    rw [hc] at hw' ho
    refine ⟨w.clearedState, o, by rw [hw', run_cleared]; rfl, rfl, ?_, Pub.of_empty _ _ rfl, ho⟩
    have g : Good score (S w.clearedState.stream) w.clearedState := Good.of_empty score _ _ rfl rfl rfl
    cases hst : p.status with
    | rescore => exact Or.inl ⟨rfl, BK_cleared w⟩
    | update => exact Or.inr (Or.inl ⟨rfl, g.loose score (by show 0 < PLACE; simp [PLACE])⟩)
    | unchanged => exact Or.inr (Or.inr ⟨rfl, g⟩)
  | false =>
    rw [hc] at hw' ho
    refine ⟨w, o, hw', rfl, ?_, hpub hc, ho⟩
    rcases hs with h | h
    · rw [hc] at h; cases h
    · exact h

theorem RunsAs.control {p : Pending} {w w' : Worker} {mc : Bool} (hr : RunsAs score len S emp p w w' mc) :
    w'.running = true ∧ w'.pattern = w.pattern ∧ w'.stream = w.stream := by
  obtain ⟨o, hw', _⟩ := hr
  rw [hw']
  exact ⟨(run_control score len w _ _ _ o).1, (run_control score len w _ _ _ o).2.1, (run_control score len w _ _ _ o).2.2.1⟩

/-- the invariant carried through every event of a `Nucleo`; `idle`, `pat` as in `Inv19` -/
structure P07 (n : Nucleo) : Prop where
  idle : n.pending = none → n.worker.running = false
  /-- with no run in flight on a live stream, the snapshot is a copy of the worker's completed result -/
  mirror : n.pending = none → n.state = .fresh → n.snapshot = n.snapshot.update n.worker ∧ n.worker.wasCanceled = false
  pat : n.status = .unchanged → n.state = .fresh → n.worker.pattern = n.pattern
  /-- a pending appended edit narrows the pattern the worker was last started with -/
  upd : n.status = .update → n.state = .fresh → Narrows score n.pattern n.worker.pattern
  /-- on a live stream the worker holds the current stream -/
  str : n.state = .fresh → n.worker.stream = n.cur
  /-- with no run in flight the worker is between runs -/
  btw : n.pending = none → Between score (S n.worker.stream) n.worker
  /-- the worker meets the start condition of the run in flight -/
  sta : ∀ p, n.pending = some p → StartOk score S p n.worker
  /-- the indices the worker accounts for are published items of its stream — unless the pending run starts by clearing
      (it starts from `clearedState`) -/
  pub : (∃ st, n.pending = some ⟨st, true⟩) ∨ Pub (S n.worker.stream) n.worker

theorem pub_iff_of_pending {n : Nucleo} {p : Pending} (hp : n.pending = some p) :
    ((∃ st, n.pending = some ⟨st, true⟩) ∨ Pub (S n.worker.stream) n.worker) ↔
      (p.cleared = false → Pub (S n.worker.stream) n.worker) := by
  rw [hp]
  constructor
  · rintro (⟨st, h⟩ | h) hc
    · cases h; cases hc
    · exact h
  · intro h
    cases hcl : p.cleared with
    | true => exact Or.inl ⟨p.status, by rw [← hcl]⟩
    | false => exact Or.inr (h hcl)

theorem P07.new : P07 score S Nucleo.new := by
  have g : Good score (S Nucleo.new.worker.stream) Nucleo.new.worker := Good.of_empty score _ _ rfl rfl rfl
  exact { idle := fun _ => rfl, mirror := fun _ => nofun, pat := fun _ => nofun, upd := fun _ => nofun, str := nofun,
          btw := fun _ => ⟨g.loose score (by decide), fun _ => g⟩, sta := fun _ => nofun, pub := Or.inr (Pub.of_empty _ _ rfl) }

theorem P07.of_eq {n n' : Nucleo} (h : P07 score S n) (e1 : n'.pending = n.pending) (e2 : n'.worker = n.worker)
    (e3 : n'.state = n.state) (e4 : n'.snapshot = n.snapshot) (e5 : n'.status = n.status) (e6 : n'.pattern = n.pattern)
    (e7 : n'.cur = n.cur) : P07 score S n' :=
  ⟨by rw [e1, e2]; exact h.idle, by rw [e1, e2, e3, e4]; exact h.mirror, by rw [e2, e3, e5, e6]; exact h.pat,
   by rw [e2, e3, e5, e6]; exact h.upd, by rw [e2, e3, e7]; exact h.str, by rw [e1, e2]; exact h.btw, by rw [e1, e2]; exact h.sta,
   by rw [e1, e2]; exact h.pub⟩

theorem P07.restart {n : Nucleo} (h : P07 score S n) (c : Bool) : P07 score S (n.restart c) :=
  ⟨h.idle, fun _ => nofun, fun _ => nofun, fun _ => nofun, nofun, h.btw, h.sta, h.pub⟩

/-- `reparse`: the column is marked changed; an appended edit (status `Update`) narrows the previous pattern and is
    only reported when no rescore is already due -/
def ReparseOk (n : Nucleo) (p : Nat) (s : PStatus) : Prop :=
  s ≠ .unchanged ∧ (s = .update → Narrows score p n.pattern ∧ n.status ≠ .rescore)

theorem P07.reparse {n : Nucleo} (h : P07 score S n) (p : Nat) (s : PStatus) (ok : ReparseOk score n p s) : P07 score S (n.reparse p s) := by
  refine ⟨h.idle, h.mirror, fun hu _ => absurd hu ok.1, fun hu hf => ?_, h.str, h.btw, h.sta, h.pub⟩
  have hu' : s = .update := hu
  obtain ⟨hn, hr⟩ := ok.2 hu'
  show Narrows score p n.worker.pattern
  cases hst : n.status with
  | rescore => exact absurd hst hr
  | unchanged => rw [h.pat hst hf]; exact hn
  | update => exact hn.trans score (h.upd hst hf)

/-- the state a `tick_inner` that holds the lock works on (`Joined`, with the worker-level facts) -/
structure Joined07 (m : Nucleo) : Prop where
  noPending : m.pending = none
  btw : Between score (S m.worker.stream) m.worker
  pub : Pub (S m.worker.stream) m.worker
  fresh : m.state = .fresh →
    (m.worker.running = true ∧ m.worker.wasCanceled = false) ∨
    (m.worker.running = false ∧ m.snapshot = m.snapshot.update m.worker ∧ m.worker.wasCanceled = false)

theorem update_workerAfter (m : Nucleo) : m.snapshot.update m.workerAfter = m.snapshot.update m.worker := by
  rw [Nucleo.workerAfter_eq]
  rfl

theorem locked_step07 (m : Nucleo) (k : Nat) (hj : Joined07 score S m) (hf : m.state = .fresh) (hp : m.worker.pattern = m.pattern)
    (hs : m.worker.stream = m.cur) :
    P07 score S (tickInnerLocked m false .unchanged k).1 ∧
    ((tickInnerLocked m false .unchanged k).2.running = false →
      (tickInnerLocked m false .unchanged k).1.snapshot =
        (tickInnerLocked m false .unchanged k).1.snapshot.update (tickInnerLocked m false .unchanged k).1.worker ∧
      Good score (S m.cur) (tickInnerLocked m false .unchanged k).1.worker ∧
      k ≤ (tickInnerLocked m false .unchanged k).1.worker.itemCount ∧
      (tickInnerLocked m false .unchanged k).1.worker.pattern = m.pattern ∧
      (tickInnerLocked m false .unchanged k).1.worker.stream = m.cur) := by
  have hwc : m.worker.wasCanceled = false := by
    rcases hj.fresh hf with ⟨_, h⟩ | ⟨_, _, h⟩
    · exact h
    · exact h
  -- the worker holds a completed result, and whichever way the lock was found the snapshot now is a copy of it
  have hgood : Good score (S m.worker.stream) m.worker := hj.btw.good hwc
  have hsnap : m.snapAfter = m.snapAfter.update m.worker := by
    rcases hj.fresh hf with ⟨h1, h2⟩ | ⟨h1, h2, _⟩
    · rw [m.snapAfter_of_result h1 h2 hf]; rfl
    · rw [m.snapAfter_of_not (Or.inl h1)]; exact h2
  rcases Nat.lt_or_ge m.worker.itemCount k with hk | hk
  · rw [tickInnerLocked_spawn _ _ _ _ (Or.inr hk), hf]
    refine ⟨{ idle := nofun, mirror := nofun, pat := fun _ _ => rfl, upd := fun _ _ => Narrows.refl score _, str := fun _ => hs,
              btw := nofun, sta := ?_, pub := Or.inr (hj.pub.congr rfl rfl) }, nofun⟩
    rintro _ ⟨⟩
    exact Or.inr (Or.inr (Or.inr ⟨rfl, hgood.congr score rfl rfl rfl hp.symm⟩))
  · rw [tickInnerLocked_idle _ _ _ hk]
    exact ⟨{ idle := fun _ => rfl, mirror := fun _ _ => ⟨hsnap, hwc⟩, pat := fun _ _ => hp,
             upd := fun _ _ => hp ▸ Narrows.refl score _, str := fun _ => hs,
             btw := fun _ => hj.btw.congr score rfl rfl rfl rfl rfl,
             sta := fun p hpp => (by rw [hj.noPending] at hpp; cases hpp), pub := Or.inr (hj.pub.congr rfl rfl) },
      fun _ => ⟨hsnap, hs ▸ hgood.congr score rfl rfl rfl rfl, hk, hp, hs⟩⟩

theorem joinRun07 (hemp : EmpOk score emp) (n : Nucleo) (hbtw : n.pending = none → Between score (S n.worker.stream) n.worker)
    (hsta : ∀ p, n.pending = some p → StartOk score S p n.worker)
    (hpub : (∃ st, n.pending = some ⟨st, true⟩) ∨ Pub (S n.worker.stream) n.worker) (run : Worker → Worker) (mc : Bool)
    (hr : ∀ p, n.pending = some p → RunsAs score len S emp p n.worker (run n.worker) mc) :
    Between score (S (n.joinRun run).worker.stream) (n.joinRun run).worker ∧
    (n.joinRun run).worker.pattern = n.worker.pattern ∧ (n.joinRun run).worker.stream = n.worker.stream ∧
    (n.pending.isSome = true → (n.joinRun run).worker.running = true ∧ (mc = false → (n.joinRun run).worker.wasCanceled = false)) ∧
    (n.pending = none → (n.joinRun run).worker = n.worker) ∧ Pub (S (n.joinRun run).worker.stream) (n.joinRun run).worker := by
  rw [Nucleo.joinRun_eq]
  cases hp : n.pending with
  | none =>
    refine ⟨hbtw hp, rfl, rfl, nofun, fun _ => rfl, ?_⟩
    rcases hpub with ⟨st, h⟩ | h
    · rw [hp] at h; cases h
    · exact h
  | some p =>
    obtain ⟨r1, r2, r3⟩ := (hr p hp).control score len S emp
    obtain ⟨w0, o, hw', e1, hst, hp0, ho⟩ := (hr p hp).start score len S emp (hsta p hp) ((pub_iff_of_pending S hp).mp hpub)
    obtain ⟨b, hwc, hp'⟩ := run_between score len S emp hemp w0 p.status o mc hst hp0 ho
    rw [← hw', e1, ← r3] at b hp'
    exact ⟨b, r2, r3, fun _ => ⟨r1, hw' ▸ hwc⟩, nofun, hp'⟩

/-- what is assumed of the runs a tick joins: each is the pending run executed on the worker with observations
    consistent with the worker's stream -/
structure TickEnv07 (n : Nucleo) (o : TickOracle) : Prop where
  /-- the run in flight may have seen the cancel flag only if this tick is a cancelling one -/
  run0 : ∀ p, n.pending = some p → RunsAs score len S emp p n.worker (o.run0 n.worker) n.tickCancels
  /-- the run a cancelling tick spawns is not cancelled while that tick waits for it (the state is the one between the two
      `tick_inner` calls) -/
  run1 : n.tickCancels = true → ∀ p, (({ n with shouldNotify := false } : Nucleo).tickCancelFirst o).1.pending = some p →
    RunsAs score len S emp p (({ n with shouldNotify := false } : Nucleo).tickCancelFirst o).1.worker
      (o.run1 (({ n with shouldNotify := false } : Nucleo).tickCancelFirst o).1.worker) false

/-- what a tick that reports `running = false` leaves behind -/
def Settled (n' : Nucleo) (pat count : Nat) : Prop :=
  n'.snapshot = n'.snapshot.update n'.worker ∧ Good score (S n'.cur) n'.worker ∧ count ≤ n'.worker.itemCount ∧
  n'.worker.pattern = pat ∧ n'.worker.stream = n'.cur

theorem tickPlain07 (hemp : EmpOk score emp) (n : Nucleo) (h : P07 score S n) (o : TickOracle)
    (hr : ∀ p, n.pending = some p → RunsAs score len S emp p n.worker (o.run0 n.worker) false)
    (hst : n.status = .unchanged) (hf : n.state = .fresh) :
    P07 score S (n.tickPlain o).1 ∧ ((n.tickPlain o).2.running = false → Settled score S (n.tickPlain o).1 n.pattern o.count1) := by
  rcases n.tickPlain_cases o with ⟨_, e⟩ | e <;> rw [e]
  · exact ⟨h.of_eq score S rfl rfl rfl rfl rfl rfl rfl, nofun⟩
  · obtain ⟨j1, j2, j3, j4, j5, j6⟩ := joinRun07 score len S emp hemp n h.btw h.sta h.pub o.run0 false hr
    have hfj : (n.joinRun o.run0).pending = none ∧ (n.joinRun o.run0).state = n.state ∧
        (n.joinRun o.run0).pattern = n.pattern ∧ (n.joinRun o.run0).cur = n.cur ∧
        (n.joinRun o.run0).snapshot = n.snapshot := by
      rw [Nucleo.joinRun_eq]
      exact ⟨rfl, rfl, rfl, rfl, rfl⟩
    have hj : Joined07 score S (n.joinRun o.run0) := by
      refine ⟨hfj.1, j1, j6, fun _ => ?_⟩
      cases hp : n.pending with
      | none =>
        rw [j5 hp, hfj.2.2.2.2]
        exact Or.inr ⟨h.idle hp, (h.mirror hp hf).1, (h.mirror hp hf).2⟩
      | some p =>
        have := j4 (by rw [hp]; rfl)
        exact Or.inl ⟨this.1, this.2 rfl⟩
    have ls := locked_step07 score S (n.joinRun o.run0) o.count1 hj (hfj.2.1.trans hf)
      (by rw [j2, hfj.2.2.1]; exact h.pat hst hf) (by rw [j3, hfj.2.2.2.1]; exact h.str hf)
    refine ⟨ls.1, fun hh => ?_⟩
    obtain ⟨s1, s2, s3, s4, s5⟩ := ls.2 hh
    unfold Settled
    rw [(tickInnerLocked_frame (n.joinRun o.run0) false .unchanged o.count1).2.2.1]
    exact ⟨s1, s2, s3, s4.trans hfj.2.2.1, s5⟩

theorem cancelFirst07 (hemp : EmpOk score emp) (n : Nucleo) (h : P07 score S n) (o : TickOracle)
    (hr : ∀ p, n.pending = some p → RunsAs score len S emp p n.worker (o.run0 n.worker) true) (hc : n.tickCancels = true) :
    (n.tickCancelFirst o).1.state = .fresh ∧ (n.tickCancelFirst o).1.pending = some ⟨n.status, n.state.canceled⟩ ∧
    (n.tickCancelFirst o).1.worker.pattern = n.pattern ∧ (n.tickCancelFirst o).1.worker.stream = n.cur ∧
    (n.tickCancelFirst o).1.status = .unchanged ∧ (n.tickCancelFirst o).1.pattern = n.pattern ∧ (n.tickCancelFirst o).1.cur = n.cur ∧
    StartOk score S ⟨n.status, n.state.canceled⟩ (n.tickCancelFirst o).1.worker ∧
    (n.state.canceled = false → Pub (S (n.tickCancelFirst o).1.worker.stream) (n.tickCancelFirst o).1.worker) := by
  obtain ⟨hb, j2, j3, _, _, j6⟩ := joinRun07 score len S emp hemp n h.btw h.sta h.pub o.run0 true hr
  rw [Nucleo.tickCancelFirst_eq]
  refine ⟨rfl, rfl, rfl, ?_, rfl, rfl, rfl, ?_⟩
  · show (if n.state.canceled then n.cur else (n.joinRun o.run0).worker.stream) = n.cur
    cases hcs : n.state.canceled with
    | true => rfl
    | false => exact j3.trans (h.str ((NState.canceled_eq_false_iff _).mp hcs))
  -- after a restart the spawned run clears the worker; on a live stream it keeps the worker's stream
  cases hcs : n.state.canceled with
  | true => exact ⟨Or.inl rfl, nofun⟩
  | false =>
    have hfresh : n.state = .fresh := (NState.canceled_eq_false_iff _).mp hcs
    have hstat : n.status ≠ .unchanged := fun e => by
      rw [(n.tickCancels_eq_false_iff.mpr ⟨e, hfresh⟩)] at hc; cases hc
    refine ⟨Or.inr ?_, fun _ => j6.congr rfl rfl⟩
    show StartKeep score S n.status _
    cases hst : n.status with
    | unchanged => exact absurd hst hstat
    | rescore => exact Or.inl ⟨rfl, hb.loose.bk.nodup, hb.loose.bk.below⟩
    | update =>
      refine Or.inr (Or.inl ⟨rfl, ?_⟩)
      show Loose score (S (n.joinRun o.run0).worker.stream) n.pattern _
      exact (hb.loose.narrow score (j2 ▸ h.upd hst hfresh)).congr score rfl rfl rfl

theorem P07.of_pending {n : Nucleo} {p : Pending} (hp : n.pending = some p)
    (hsta : StartOk score S p n.worker) (hpub : p.cleared = false → Pub (S n.worker.stream) n.worker)
    (hw : n.worker.pattern = n.pattern) (hs : n.worker.stream = n.cur) (hst : n.status = .unchanged) : P07 score S n := by
  have hpn : n.pending ≠ none := fun e => by rw [hp] at e; cases e
  exact { idle := fun e => absurd e hpn, mirror := fun e => absurd e hpn, pat := fun _ _ => hw,
          upd := fun e => (by rw [hst] at e; cases e), str := fun _ => hs, btw := fun e => absurd e hpn,
          sta := fun q hq => (by rw [hp] at hq; cases hq; exact hsta), pub := (pub_iff_of_pending S hp).mpr hpub }

theorem P07.tickCancelFirst (hemp : EmpOk score emp) {n : Nucleo} (h : P07 score S n) (o : TickOracle)
    (hr : ∀ p, n.pending = some p → RunsAs score len S emp p n.worker (o.run0 n.worker) true) (hc : n.tickCancels = true) :
    P07 score S (n.tickCancelFirst o).1 := by
  obtain ⟨_, f2, f3, f4, f5, f6, f7, f8, f9⟩ := cancelFirst07 score len S emp hemp n h o hr hc
  exact .of_pending score S f2 f8 f9 (f3.trans f6.symm) (f4.trans f7.symm) f5

theorem tickSecond07 (hemp : EmpOk score emp) (n2 : Nucleo) (o : TickOracle) (p : Pending) (hf : n2.state = .fresh) (hp : n2.pending = some p)
    (hsta : StartOk score S p n2.worker) (hpub : p.cleared = false → Pub (S n2.worker.stream) n2.worker)
    (hw : n2.worker.pattern = n2.pattern) (hs : n2.worker.stream = n2.cur)
    (hst : n2.status = .unchanged)
    (hr : RunsAs score len S emp p n2.worker (o.run1 n2.worker) false) :
    P07 score S (n2.tickSecond o).1 ∧ ((n2.tickSecond o).2.running = false → Settled score S (n2.tickSecond o).1 n2.pattern o.count2) := by
  rw [Nucleo.tickSecond_eq_tickPlain n2 o (by rw [hp]; rfl)]
  exact tickPlain07 score len S emp hemp n2 (P07.of_pending score S hp hsta hpub hw hs hst) o.second
    (fun q hq => by rw [hp] at hq; cases hq; exact hr) hst hf

theorem P07.tick (hemp : EmpOk score emp) {n : Nucleo} (h : P07 score S n) (o : TickOracle) (env : TickEnv07 score len S emp n o) :
    P07 score S (n.tick o).1 ∧
    ((n.tick o).2.running = false → Settled score S (n.tick o).1 n.pattern (o.decidingCount n)) := by
  unfold TickOracle.decidingCount
  have h0 : P07 score S ({ n with shouldNotify := false } : Nucleo) := h.of_eq score S rfl rfl rfl rfl rfl rfl rfl
  have hr0 := env.run0
  by_cases hc : n.tickCancels = true
  · rw [(n.tick_of_cancels o hc).1, (n.tick_of_cancels o hc).2.1, if_pos hc]
    rw [hc] at hr0
    obtain ⟨f1, _, _, f4, f5⟩ := tickCancelFirst_facts ({ n with shouldNotify := false } : Nucleo) o
    have st := tickPlain07 score len S emp hemp _ (h0.tickCancelFirst score len S emp hemp o hr0 hc) o.second (env.run1 hc) f5 f1
    rw [f4] at st
    exact st
  · rw [Bool.not_eq_true] at hc
    rw [Nucleo.tick_of_not_cancels n o hc, if_neg (by rw [hc]; nofun)]
    rw [hc] at hr0
    obtain ⟨hst, hf⟩ := n.tickCancels_eq_false_iff.mp hc
    exact tickPlain07 score len S emp hemp ({ n with shouldNotify := false } : Nucleo) h0 o hr0 hst hf

def EvOk07 (n : Nucleo) : Ev → Prop
  | .tick o => TickEnv07 score len S emp n o
  | .reparse p s => ReparseOk score n p s
  | _ => True

def okHist07 : Nucleo → List Ev → Prop
  | _, [] => True
  | n, e :: es => EvOk07 score len S emp n e ∧ okHist07 (applyEv n e) es

theorem P07.step (hemp : EmpOk score emp) {n : Nucleo} (h : P07 score S n) (e : Ev) (hok : EvOk07 score len S emp n e) :
    P07 score S (applyEv n e) := by
  rcases applyEv_eq n e with ⟨l, e'⟩ | ⟨c, rfl⟩ | ⟨p, s, rfl⟩ | ⟨o, rfl⟩
  · rw [e']; exact h.of_eq score S rfl rfl rfl rfl rfl rfl rfl
  · exact h.restart score S c
  · exact h.reparse score S p s hok
  · exact (h.tick score len S emp hemp o hok).1

theorem P07.history (hemp : EmpOk score emp) : ∀ (evs : List Ev) (n : Nucleo), P07 score S n → okHist07 score len S emp n evs → P07 score S (evs.foldl Nu.applyEv n) :=
  history_induction (fun _ e _ h hok => ⟨h.step score len S emp hemp e hok.1, hok.2⟩)

/-- C07 at the level of the protocol: after every history of injector(), clone, drop, reparse (an `Update` status
    only for an edit that narrows the matches), restart(true|false) and tick — ticks that complete or time out, runs
    that complete or are cancelled at an arbitrary point, every lock outcome — a tick that reports `running = false`
    leaves a snapshot whose match list is exactly the current pattern's matches (with their scores) among the accounted
    items of the current stream, for the current pattern, counting at least as many items as the reservation counter
    showed (the order is `C06_protocol`); with nothing in flight that is the from-scratch result over all of them
    (`C07_quiescent`). -/
theorem C07_protocol (hemp : EmpOk score emp) (evs : List Ev) (hok : okHist07 score len S emp Nucleo.new evs) (o : TickOracle)
    (env : TickEnv07 score len S emp (evs.foldl applyEv Nucleo.new) o)
    (hrun : ((evs.foldl applyEv Nucleo.new).tick o).2.running = false) :
    let n' := ((evs.foldl applyEv Nucleo.new).tick o).1
    n'.snapshot.hits.Perm (idealHits score (S n'.cur) n'.pattern (processed n'.worker)) ∧
    n'.snapshot.pattern = n'.pattern ∧ n'.snapshot.stream = n'.cur ∧ n'.snapshot.itemCount = n'.worker.itemCount ∧
    o.decidingCount (evs.foldl applyEv Nucleo.new) ≤ n'.snapshot.itemCount ∧
    (n'.worker.inFlight = [] → n'.snapshot.hits.Perm (idealHits score (S n'.cur) n'.pattern (List.range n'.worker.lastSnapshot)) ∧
       n'.snapshot.itemCount = n'.worker.lastSnapshot) := by
  intro n'
  have inv := P07.history score len S emp hemp evs Nucleo.new (P07.new score S) hok
  obtain ⟨_, hs⟩ := inv.tick score len S emp hemp o env
  obtain ⟨s1, s2, s3, s4, s5⟩ := hs hrun
  have hpat : n'.pattern = (evs.foldl applyEv Nucleo.new).pattern := (tick_frame (evs.foldl applyEv Nucleo.new) o).2.2.2
  have e_hits : n'.snapshot.hits = n'.worker.hits := by rw [s1]; rfl
  have e_pat : n'.snapshot.pattern = n'.worker.pattern := by rw [s1]; rfl
  have e_str : n'.snapshot.stream = n'.worker.stream := by rw [s1]; rfl
  have e_cnt : n'.snapshot.itemCount = n'.worker.itemCount := by rw [s1]; rfl
  have hright := s2.right
  rw [s4] at hright e_pat
  refine ⟨by rw [e_hits, hpat]; exact hright, by rw [e_pat, hpat], by rw [e_str, s5], e_cnt, by rw [e_cnt]; exact s3,
    fun hfl => ?_⟩
  have q := C07_quiescent score (S n'.cur) n'.worker s2 hfl
  rw [s4] at q
  exact ⟨by rw [e_hits, hpat]; exact q.1, by rw [e_cnt]; exact q.2⟩

/-- the environment of the first tick of a new matcher: the run it spawns is a cleared run with status `Unchanged` -/
theorem firstTick_env (obs : Obs) (o : TickOracle)
    (h1 : o.run1 = fun w => (Worker.run score len w .unchanged true (emp w.pattern) obs).1)
    (henv : ∀ w : Worker, RunEnv (S w.stream) w.clearedState obs) : TickEnv07 score len S emp Nucleo.new o := by
  refine ⟨nofun, fun _ p hp => ?_⟩
  rw [Nucleo.tickCancelFirst_eq] at hp ⊢
  cases hp
  exact ⟨obs, congrFun h1 _, (henv _).obsEnv, Or.inr (henv _)⟩

/-- the hypotheses can be met and the conclusion is reached: the first tick on a new matcher (whose pattern, id 0, is the
    empty pattern) over an empty stream, whose (cleared) run completes in time, reports `running = false` -/
example :
    let score : Nat → Item → Option Nat := fun p _ => if p = 0 then some 0 else none
    let emp : Nat → Bool := fun p => p == 0
    let len : Item → Nat := fun _ => 0
    let S : Nat → Nat → Option Item := fun _ _ => none
    let obs : Obs := { seen0 := fun _ => none, seen1 := fun _ => none, count := 0, inFlightOrder := id, sawCancel := fun _ => false,
                       sortCanceled := false, shouldNotify := false }
    let run : Worker → Worker := fun w => (Worker.run score len w .unchanged true (emp w.pattern) obs).1
    let o : TickOracle := { count1 := 0, count2 := 0, lock1 := true, lock2 := true, run0 := run, run1 := run }
    EmpOk score emp ∧ okHist07 score len S emp Nucleo.new [] ∧ TickEnv07 score len S emp Nucleo.new o ∧ (Nucleo.new.tick o).2.running = false := by
  intro score emp len S obs run o
  refine ⟨fun p it h => by simp [emp] at h; simp [score, h], trivial, firstTick_env score len S emp obs o rfl fun w => ?_,
    by decide⟩
  exact ⟨nofun, nofun, fun i h _ => absurd h (Nat.not_lt_zero i), Nat.le_refl _, by decide, fun _ => ⟨rfl, rfl⟩, rfl,
    fun l => List.Perm.refl l⟩

end NucleoVerif.Nu
