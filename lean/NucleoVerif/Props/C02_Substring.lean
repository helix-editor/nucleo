import NucleoVerif.Lemmas.Tight
import NucleoVerif.Props.C02_Anchored
import NucleoVerif.Props.C05_Unicode
/-! # C02 — substring matching reports the contiguous indices of an occurrence -/
namespace NucleoVerif
open Gen Spec Sub DP

theorem occurrence_window (cfg : Cfg) (hrep : Rep) (h n : List Nat) (q : Nat) (hq : q ∈ occurrences cfg hrep h n) :
    q + n.length ≤ h.length ∧ ((h.drop q).take n.length).map (norm cfg hrep) = n := by
  obtain ⟨hfit, hwin⟩ := (mem_occurrences cfg hrep h n q).mp hq
  exact ⟨hfit, by rw [List.map_take, List.map_drop]; exact hwin⟩

theorem occurrence_tight (cfg : Cfg) (hrep : Rep) (h : List Nat) (n0 : Nat) (ns : List Nat) (q : Nat)
    (hq : q ∈ occurrences cfg hrep h (n0 :: ns)) :
    TightWindow cfg hrep h n0 ns q (q + (n0 :: ns).length) := by
  obtain ⟨hfit, hwin⟩ := occurrence_window cfg hrep h _ q hq
  exact tightWindow_of_exact cfg hrep h n0 ns q _ (Nat.add_sub_cancel_left _ _).symm
    (by rw [Nat.add_sub_cancel_left, map_cnorm_eq_map_norm]; exact hwin)

theorem occurrence_witness (cfg : Cfg) (ext : Ext) (hrep : Rep) (h : List Nat) (n0 : Nat) (ns : List Nat) (P : Nat)
    (hP : P ∈ occurrences cfg hrep h (n0 :: ns)) :
    (calculateScore cfg ext hrep h (n0 :: ns) P (P + (n0 :: ns).length)).2 = List.range' P (n0 :: ns).length ∧
    validWitnessB cfg hrep h (n0 :: ns) (calculateScore cfg ext hrep h (n0 :: ns) P (P + (n0 :: ns).length)).2 = true :=
  ⟨calculateScore_contiguous cfg ext hrep h n0 ns P _ (by
      rw [Nat.add_sub_cancel_left, map_cnorm_eq_map_norm]; exact (occurrence_window cfg hrep h _ P hP).2),
    witness_of_tight cfg ext hrep h n0 ns P _ (occurrence_tight cfg hrep h n0 ns P hP)⟩

theorem contiguousB_range' : ∀ (L s : Nat), contiguousB (List.range' s L) = true := by
  intro L
  induction L with
  | zero => intro s; rfl
  | succ L ih =>
    intro s
    have := ih (s + 1)
    cases L with
    | zero => rfl
    | succ L' =>
      simp only [contiguousB, List.range'_succ, List.drop_succ_cons, List.drop_zero, List.zip_cons_cons, List.all_cons,
        beq_self_eq_true, Bool.true_and] at this ⊢
      exact this

/-- `substring_indices` on an ASCII haystack: the indices are the contiguous positions of an occurrence of the needle -/
theorem C02_substring_ascii_witness (cfg : Cfg) (ext : Ext) (h : List Nat) (n0 : Nat) (ns : List Nat)
    (hb : 8 ≤ maxBonus cfg) (hasc : ∀ x ∈ h, x < 128) (hn : ∀ c ∈ n0 :: ns, normAscii cfg c = c)
    (hlen : (n0 :: ns).length ≤ h.length) (sc : Nat) (idx : List Nat)
    (hres : substringAscii cfg ext h (n0 :: ns) = some (sc, idx)) :
    validWitnessB cfg .ascii h (n0 :: ns) idx = true ∧ contiguousB idx = true := by
  obtain ⟨P, hP, hcs, _⟩ := (substringAscii_spec cfg ext h n0 ns hb hasc hn hlen).2 _ hres
  obtain ⟨hc, hv⟩ := occurrence_witness cfg ext .ascii h n0 ns P hP
  rw [← hcs] at hc hv
  exact ⟨hv, by rw [show idx = _ from hc]; exact contiguousB_range' _ _⟩

theorem C02_substring_unicode_witness (cfg : Cfg) (ext : Ext) (nrep : Rep) (h : List Nat) (n0 n1 : Nat) (ns : List Nat)
    (hb : 8 ≤ maxBonus cfg) (hlen : (n0 :: n1 :: ns).length ≤ h.length) (start e : Nat)
    (hp : prefilterNonAscii cfg h (n0 :: n1 :: ns) false = some (start, e)) (sc : Nat) (idx : List Nat)
    (hres : substringNonAscii cfg ext nrep h (n0 :: n1 :: ns) start = some (sc, idx)) :
    validWitnessB cfg .unicode h (n0 :: n1 :: ns) idx = true ∧ idx = List.range' (idx.headD 0) (n0 :: n1 :: ns).length := by
  obtain ⟨P, hP, hcs, _⟩ := (substringNonAscii_spec cfg ext nrep h n0 n1 ns hb hlen start e hp).2 _ hres
  obtain ⟨hc, hv⟩ := occurrence_witness cfg ext .unicode h n0 (n1 :: ns) P hP
  rw [← hcs] at hc hv
  exact ⟨hv, by rw [show idx = _ from hc]; rfl⟩

end NucleoVerif
