import NucleoVerif.Props.C02
import NucleoVerif.Lemmas.Scan
import NucleoVerif.Lemmas.Subseq
/-! # C04 — ranking quality: bounded by the true optimum, no worse than the recurrence

Modelling level (DESIGN.md): `optimalDP` *is* the documented two-matrix recurrence evaluated naively (lower-bound
clause: the implementation equals it — `C04_Window`, `C04_Compressed`). -/
namespace NucleoVerif
open Gen Spec

/-- no bonus exceeds the value the "can't get better" early exit waits for — for every configuration whose largest
    boundary bonus is at least the non-word bonus (true for all three presets, below) -/
theorem C04_bonus_le_max (cfg : Cfg) (hb : 8 ≤ maxBonus cfg) (prev cls : CharClass) :
    bonusFor cfg prev cls ≤ maxBonus cfg := bonus_le_max cfg hb prev cls

theorem C04_presets_max :
    8 ≤ max presetDefault_white presetDefault_delim ∧ 8 ≤ max presetMatchPaths_white presetMatchPaths_delim ∧
    8 ≤ max presetSetMatchPaths_white presetSetMatchPaths_delim := by decide

open DP

theorem foldl_max_ge_init (l : List Nat) : ∀ (a : Nat), a ≤ l.foldl max a := by
  induction l with
  | nil => intro a; exact Nat.le_refl _
  | cons x t ih =>
    intro a
    rw [List.foldl_cons]
    exact Nat.le_trans (Nat.le_max_left a x) (ih _)

theorem foldl_max_ge_mem (l : List Nat) : ∀ (a : Nat) (x : Nat), x ∈ l → x ≤ l.foldl max a := by
  induction l with
  | nil => intro a x hx; simp at hx
  | cons y t ih =>
    intro a x hx
    simp only [List.foldl_cons]
    rcases List.mem_cons.mp hx with rfl | hx
    · exact Nat.le_trans (Nat.le_max_right a x) (foldl_max_ge_init t _)
    · exact ih _ x hx

/-- the normalized character at absolute index `x` of a haystack suffix `cs` that starts at `base` -/
def normAt (cfg : Cfg) (hrep : Rep) (cs : List Nat) (base x : Nat) : Nat := (cs[x - base]?.map (norm cfg hrep)).getD 0

theorem normAt_cons (cfg : Cfg) (hrep : Rep) (c : Nat) (cs : List Nat) (base x : Nat) (hx : base + 1 ≤ x) :
    normAt cfg hrep (c :: cs) base x = normAt cfg hrep cs (base + 1) x := by
  rw [normAt, normAt, ← Nat.succ_pred_eq_of_pos (Nat.sub_pos_of_lt hx), ← Nat.sub_succ, List.getElem?_cons_succ]

theorem mem_allAlignments (cfg : Cfg) (hrep : Rep) :
    ∀ (cs : List Nat) (n : List Nat) (base : Nat) (is : List Nat),
      is.Pairwise (· < ·) → (∀ x ∈ is, base ≤ x ∧ x < base + cs.length) → is.map (normAt cfg hrep cs base) = n →
      is ∈ allAlignments cfg hrep n base cs := by
  intro cs
  induction cs with
  | nil =>
    intro n base is _ hin hmap
    cases is with
    | nil => subst hmap; exact List.mem_singleton.mpr rfl
    | cons i0 it =>
      have := hin i0 List.mem_cons_self
      exact absurd this.2 (Nat.not_lt.mpr this.1)
  | cons c cs ih =>
    intro n base is hpw hin hmap
    cases is with
    | nil => subst hmap; exact List.mem_singleton.mpr rfl
    | cons i0 it =>
      subst hmap
      obtain ⟨hlt, hpw'⟩ := List.pairwise_cons.mp hpw
      have hi0 := hin i0 List.mem_cons_self
      have hit : ∀ x ∈ it, x < base + 1 + cs.length := fun x hx => by
        have := (hin x (List.mem_cons_of_mem _ hx)).2
        rw [List.length_cons] at this
        omega
      rw [List.map_cons, allAlignments, List.mem_append]
      by_cases h0 : i0 = base
      · -- the alignment starts at this character: its tail aligns the rest of the needle behind it
        subst h0
        have hc : norm cfg hrep c = normAt cfg hrep (c :: cs) i0 i0 := by rw [normAt, Nat.sub_self]; rfl
        rw [if_pos hc]
        refine Or.inl (List.mem_map.mpr ⟨it, ?_, rfl⟩)
        rw [List.map_congr_left fun x hx => normAt_cons cfg hrep c cs i0 x (hlt x hx)]
        exact ih _ (i0 + 1) it hpw' (fun x hx => ⟨hlt x hx, hit x hx⟩) rfl
      · -- it starts later: the whole list is an alignment into the tail
        have hall : ∀ x ∈ i0 :: it, base + 1 ≤ x := fun x hx => by
          rcases List.mem_cons.mp hx with rfl | hx
          · omega
          · have := hlt x hx; omega
        rw [← List.map_cons, List.map_congr_left fun x hx => normAt_cons cfg hrep c cs base x (hall x hx)]
        refine Or.inr (ih _ (base + 1) (i0 :: it) hpw (fun x hx => ⟨hall x hx, ?_⟩) rfl)
        rcases List.mem_cons.mp hx with rfl | hx
        · have := hi0.2
          rw [List.length_cons] at this
          omega
        · exact hit x hx

/-- The optimal matcher never scores above the true optimum: the value its recurrence reports is the scheme's value
    of an alignment the brute-force specification enumerates (prefix preference off; `hr` is not used). -/
theorem C04_upper_bound (cfg : Cfg) (ext : Ext) (hrep : Rep) (h n : List Nat) (start end_ : Nat)
    (hr : hrep = .ascii → ∀ c ∈ h, c < 128) (hpp : cfg.preferPrefix = false) (sc : Nat) (path : List Nat)
    (hres : optimalDP cfg ext hrep h n start end_ = some (sc, path)) :
    sc ≤ maxAlignScore cfg ext hrep h n := by
  have inv := DP.optimalDP_eq_alignScore cfg ext hrep h n start end_ hpp sc path hres
  have hsp := C02_optimalDP_spells_needle cfg ext hrep h n start end_ sc path hres
  have hmem : path ∈ allAlignments cfg hrep n 0 h := by
    apply mem_allAlignments cfg hrep h n 0 path inv.2.1
    · intro x hx
      exact ⟨Nat.zero_le _, by rw [Nat.zero_add]; exact (inv.2.2 x hx).2⟩
    · rw [← hsp]
      apply List.map_congr_left
      intro x hx
      have hlt := (inv.2.2 x hx).2
      simp only [normAt, chAt, Nat.sub_zero, List.getElem?_eq_getElem hlt, Option.map_some, Option.getD_some]
      exact (cnorm_eq_norm cfg hrep h[x]).symm
  unfold maxAlignScore
  rw [inv.1]
  exact foldl_max_ge_mem _ 0 _ (List.mem_map.mpr ⟨path, hmem, rfl⟩)

/-- the one-character scan is the general candidate scan with an acceptance test on the current character -/
theorem scan1_inv (cfg : Cfg) (hb : 8 ≤ maxBonus cfg) (m : Nat → Bool) (cl : Nat → CharClass)
    (xs : List Nat) (b : Best) (prev : CharClass) (pos : Nat) (S : List (Nat × Nat))
    (h : ScanInv cfg b S) (hlt : ∀ ps ∈ S, ps.1 < pos) :
    ScanInv cfg (scan1 cfg m cl b prev pos xs) (S ++ cands1 cfg m cl prev pos xs) := by
  rw [scan1_eq_scanS, cands1_eq_candsS]
  exact scanS_inv cfg hb _ cl xs b prev pos S h hlt

theorem allAlignments_single (cfg : Cfg) (hrep : Rep) (nc : Nat) (m : Nat → Bool) (cl : Nat → CharClass)
    (hm : ∀ x, m x = true ↔ norm cfg hrep x = nc) :
    ∀ (xs : List Nat) (prev : CharClass) (pos : Nat),
      allAlignments cfg hrep [nc] pos xs = (cands1 cfg m cl prev pos xs).map (fun ps => [ps.1]) := by
  intro xs
  induction xs with
  | nil => intro _ _; simp [allAlignments, cands1]
  | cons x xs ih =>
    intro prev pos
    simp only [allAlignments, cands1, List.map_append]
    rw [ih (cl x) (pos + 1)]
    congr 1
    by_cases hx : m x = true
    · have := (hm x).mp hx
      simp [hx, this]
    · have hx' : m x = false := by simpa using hx
      have : ¬ (norm cfg hrep x = nc) := fun e => hx ((hm x).mpr e)
      simp [hx', this]

theorem alignScore_single (cfg : Cfg) (ext : Ext) (h : List Nat) (pos : Nat) (hlt : pos < h.length) :
    alignScore cfg ext h [pos] =
      bonusFor cfg (prevClassAt cfg ext h pos) (charClass cfg ext h[pos]) * BONUS_FIRST_CHAR_MULTIPLIER + SCORE_MATCH := by
  rw [DP.alignScore_cons cfg ext h pos [] hlt, List.getLast?_singleton, Option.getD_some, Nat.sub_self, List.take_zero, sWalk,
    DP.bonusFor_eq_spec, Nat.mul_comm, Nat.add_comm]
  rfl

theorem cands1_alignScore (cfg : Cfg) (ext : Ext) (h : List Nat) (m : Nat → Bool) (cl : Nat → CharClass) :
    ∀ (xs : List Nat) (prev : CharClass) (pos : Nat),
      (∀ k c, xs[k]? = some c → h[pos + k]? = some c) → prev = prevClassAt cfg ext h pos →
      (∀ x ∈ xs, cl x = charClass cfg ext x) →
      ∀ ps ∈ cands1 cfg m cl prev pos xs, ps.2 = alignScore cfg ext h [ps.1] := by
  intro xs
  induction xs with
  | nil => intro _ _ _ _ _ ps h; cases h
  | cons x xs ih =>
    intro prev pos hxs hprev hcl ps hps
    have h0' : h[pos]? = some x := hxs 0 x rfl
    obtain ⟨hlt, h0⟩ := List.getElem?_eq_some_iff.mp h0'
    rw [cands1, List.mem_append] at hps
    rcases hps with hps | hps
    · split at hps
      · rw [List.mem_singleton.mp hps, alignScore_single cfg ext h pos hlt, h0, hprev, hcl x List.mem_cons_self]
      · cases hps
    · refine ih (cl x) (pos + 1) (fun k c hk => by rw [Nat.add_right_comm]; exact hxs (k + 1) c hk) ?_
        (fun y hy => hcl y (List.mem_cons_of_mem _ hy)) ps hps
      rw [prevClassAt, if_neg (Nat.succ_ne_zero pos), Nat.add_sub_cancel, List.getElem?_eq_getElem hlt, h0,
        hcl x List.mem_cons_self]

theorem foldl_max_eq_of_upper_attained (l : List Nat) (v : Nat) (hu : ∀ x ∈ l, x ≤ v) (ha : v ∈ l) : l.foldl max 0 = v := by
  have h2 : ∀ (l : List Nat) (a : Nat), a ≤ v → (∀ x ∈ l, x ≤ v) → l.foldl max a ≤ v := by
    intro l
    induction l with
    | nil => intro a ha _; exact ha
    | cons x t ih =>
      intro a ha hl
      exact ih _ (Nat.max_le.mpr ⟨ha, hl x List.mem_cons_self⟩) (fun y hy => hl y (List.mem_cons_of_mem _ hy))
  exact Nat.le_antisymm (h2 l 0 (Nat.zero_le _) hu) (foldl_max_ge_mem l 0 v ha)

theorem allAlignments_skip (cfg : Cfg) (hrep : Rep) (c : Nat) : ∀ (xs : List Nat) (base k : Nat),
    (∀ x ∈ xs.take k, norm cfg hrep x ≠ c) → allAlignments cfg hrep [c] base xs = allAlignments cfg hrep [c] (base + k) (xs.drop k) := by
  intro xs
  induction xs with
  | nil => intro base k _; simp [allAlignments]
  | cons x xs ih =>
    intro base k hk
    cases k with
    | zero => rfl
    | succ k =>
      have hx : norm cfg hrep x ≠ c := hk x (by simp)
      simp only [allAlignments, hx, if_false, List.nil_append, List.drop_succ_cons]
      rw [ih (base + 1) k (fun y hy => hk y (by simp [hy]))]
      congr 1; omega

/-- a one-character scan started at `start`, in front of which the character does not occur, ends with the optimum over
    the whole haystack, at the leftmost position where it is attained -/
theorem scan1_optimum (cfg : Cfg) (ext : Ext) (hrep : Rep) (h : List Nat) (c : Nat) (hb : 8 ≤ maxBonus cfg)
    (m : Nat → Bool) (cl : Nat → CharClass) (hm : ∀ x, m x = true ↔ norm cfg hrep x = c) (start : Nat)
    (hcl : ∀ x ∈ h.drop start, cl x = charClass cfg ext x) (hskip : ∀ x ∈ h.take start, norm cfg hrep x ≠ c)
    (b : Best) (hbdef : b = scan1 cfg m cl ⟨0, start, false⟩ (prevClassAt cfg ext h start) start (h.drop start)) :
    (b.score = 0 → allAlignments cfg hrep [c] 0 h = []) ∧
    (b.score ≠ 0 → b.score = maxAlignScore cfg ext hrep h [c] ∧ [b.pos] ∈ allAlignments cfg hrep [c] 0 h ∧
      alignScore cfg ext h [b.pos] = b.score ∧
      ∀ q, [q] ∈ allAlignments cfg hrep [c] 0 h → alignScore cfg ext h [q] = b.score → b.pos ≤ q) := by
  have hall := allAlignments_skip cfg hrep c h 0 start hskip
  rw [Nat.zero_add, allAlignments_single cfg hrep c m cl hm (h.drop start) (prevClassAt cfg ext h start) start] at hall
  have hsc := cands1_alignScore cfg ext h m cl (h.drop start) (prevClassAt cfg ext h start) start
    (fun k c hk => by rwa [List.getElem?_drop] at hk) rfl hcl
  have inv := scan1_inv cfg hb m cl (h.drop start) ⟨0, start, false⟩ (prevClassAt cfg ext h start) start []
    ⟨fun _ hps => absurd hps List.not_mem_nil, Or.inl rfl, fun hs => by cases hs⟩ (fun _ hps => absurd hps List.not_mem_nil)
  rw [List.nil_append, ← hbdef] at inv
  have hpos : ∀ ps ∈ cands1 cfg m cl (prevClassAt cfg ext h start) start (h.drop start), ps.2 ≠ 0 := fun ps hps => by
    obtain ⟨_, _, _, e⟩ := cands1_pos cfg m cl _ _ _ ps hps
    rw [e]
    exact Nat.succ_ne_zero _
  -- from here on only the invariant and these three facts about the candidates are used
  generalize cands1 cfg m cl (prevClassAt cfg ext h start) start (h.drop start) = C at hall hsc inv hpos
  constructor
  · intro hz
    cases C with
    | nil => exact hall
    | cons ps t => exact absurd (Nat.le_zero.mp (hz ▸ inv.upper ps List.mem_cons_self)) (hpos ps List.mem_cons_self)
  · intro hz
    obtain ⟨a1, a2⟩ := inv.attained.resolve_left hz
    have hmem : [b.pos] ∈ allAlignments cfg hrep [c] 0 h := hall ▸ List.mem_map.mpr ⟨_, a1, rfl⟩
    refine ⟨?_, hmem, (hsc _ a1).symm, fun q hq hqs => ?_⟩
    · -- the values of the alignments are the candidates' scores
      have hv : (C.map fun ps => [ps.1]).map (alignScore cfg ext h) = C.map (·.2) := by
        rw [List.map_map]; exact List.map_congr_left fun ps hps => (hsc ps hps).symm
      rw [maxAlignScore, hall, hv]
      exact (foldl_max_eq_of_upper_attained _ _
        (fun x hx => by obtain ⟨ps, hps, rfl⟩ := List.mem_map.mp hx; exact inv.upper ps hps)
        (List.mem_map.mpr ⟨_, a1, rfl⟩)).symm
    · rw [hall] at hq
      obtain ⟨ps, hps, e⟩ := List.mem_map.mp hq
      rw [← List.head_eq_of_cons_eq e]
      exact a2 ps hps (by rw [hsc ps hps, List.head_eq_of_cons_eq e, hqs])

/-- For a one-character needle the ASCII matcher returns the true optimum, at the leftmost best-placed occurrence —
    every configuration whose largest boundary bonus is at least 8 (all presets).  The early "cannot get better" exit
    is sound because no bonus exceeds `max_bonus`. -/
theorem C04_one_char_optimum_ascii (cfg : Cfg) (ext : Ext) (h : List Nat) (c : Nat)
    (hb : 8 ≤ maxBonus cfg) (hasc : ∀ x ∈ h, x < 128) (hc : normAscii cfg c = c) :
    match substring1Ascii cfg ext h c with
    | none => allAlignments cfg .ascii [c] 0 h = []
    | some (sc, is) =>
      sc = maxAlignScore cfg ext .ascii h [c] ∧
      ∃ p, is = [p] ∧ [p] ∈ allAlignments cfg .ascii [c] 0 h ∧ alignScore cfg ext h [p] = sc ∧
        ∀ q, [q] ∈ allAlignments cfg .ascii [c] 0 h → alignScore cfg ext h [q] = sc → p ≤ q := by
  obtain ⟨o1, o2⟩ := scan1_optimum cfg ext .ascii h c hb (asciiEq cfg.ignoreCase c) (charClassAscii cfg)
    (fun x => Sub.asciiEq_iff cfg c x hc) 0 (fun x hx => by rw [charClass, if_pos (hasc x (List.mem_of_mem_drop hx))])
    (fun _ hx => absurd hx List.not_mem_nil)
    (scan1 cfg (asciiEq cfg.ignoreCase c) (charClassAscii cfg) ⟨0, 0, false⟩ cfg.initial 0 h) rfl
  unfold substring1Ascii
  simp only
  rw [substring1Ascii_go_eq]
  by_cases hz : (scan1 cfg (asciiEq cfg.ignoreCase c) (charClassAscii cfg) ⟨0, 0, false⟩ cfg.initial 0 h).score = 0
  · rw [if_pos hz]
    exact o1 hz
  · rw [if_neg hz]
    obtain ⟨e1, e2, e3, e4⟩ := o2 hz
    exact ⟨e1, _, rfl, e2, e3, e4⟩

end NucleoVerif
