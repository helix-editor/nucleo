import NucleoVerif.Props.C07_ParseTranslated
/-! # C14 (companion file) — the grammar the theorems of C14 speak about is the one `Atom::parse` implements

`C07_ParseTranslated` compares the functions translated from `Atom::parse` on every run (`Gen/Parse.lean`) with the model;
restated here so that a change of `Atom::parse` is a broken obligation of C14 as well.  Added: the translated pieces of
`new_inner` (`fold_char`, the byte path's case handling, the escape state machine) are the model's. -/
namespace NucleoVerif
open Gen

/-- **`Atom::parse` is `parseAtom`** (see `C07_translated_parse`) -/
theorem C14_translated_parse (seg : Seg) (raw : List Nat) (case : CaseMatching) (norm : Normalization) :
    parseAtom seg raw case norm =
      { newInner seg (stripDollar (stripKind (Gen.Parse.invert raw).2).1 (stripKind (Gen.Parse.invert raw).2).2).2.2 case norm
          (if (Gen.Parse.invert raw).1 ∧ (stripDollar (stripKind (Gen.Parse.invert raw).2).1 (stripKind (Gen.Parse.invert raw).2).2).1 = .fuzzy
           then AtomKind.substring else (stripDollar (stripKind (Gen.Parse.invert raw).2).1 (stripKind (Gen.Parse.invert raw).2).2).1)
          Gen.Parse.escape_whitespace (stripDollar (stripKind (Gen.Parse.invert raw).2).1 (stripKind (Gen.Parse.invert raw).2).2).2.1
        with negative := (Gen.Parse.invert raw).1 } ∧
    (∀ a, Gen.Parse.invert a = stripNeg a) ∧ (∀ a, Gen.Parse.kind a = ((stripKind a).1.id, (stripKind a).2)) ∧
    (∀ k a, Gen.Parse.dollar k.id a = ((stripDollar k a).1.id, (stripDollar k a).2.1, (stripDollar k a).2.2)) :=
  ⟨(C07_translated_parse seg raw case norm).2.2.1, C07_translated_invert, C07_translated_kind, C07_translated_dollar⟩

def CaseMatching.id : CaseMatching → Nat
  | .respect => 0 | .ignore => 1 | .smart => 2
def Normalization.id : Normalization → Nat
  | .never => 0 | .smart => 1

/-- **the per-character bookkeeping of the grapheme loop** (case folding or the smart-case test first, then the
    smart-normalization test on the character that is pushed), translated from both places where `new_inner` has it,
    **is the model's `foldChar`** -/
theorem C14_translated_fold_char (case : CaseMatching) (norm : Normalization) (c : Nat) (ic nz : Bool) :
    Gen.Parse.fold_char toLower isUpper normalizeLatin case.id norm.id c ic nz = foldChar case norm c ic nz := by
  cases case <;> cases norm <;> rfl

/-- **the byte path's case handling** (`make_ascii_lowercase` / `any(is_ascii_uppercase)` on the whole needle), translated
    from the source, **is the model's** (`caseN`, `icOf`: what `newInner_ascii` shows `newInner` to compute on ASCII text) -/
theorem C14_translated_ascii_case (case : CaseMatching) (n : List Nat) :
    Gen.Parse.ascii_case (fun l => l.map asciiLower) (fun l => l.any (fun b => 65 ≤ b && b ≤ 90)) case.id n = (caseN case n, icOf case n) := by
  cases case <;> rfl

/-- **the escape state machine of the grapheme loop** (a backslash is held back until the next character shows whether
    it escapes a space), translated statement by statement from `new_inner`, **is the model's `escStep`** -/
theorem C14_translated_esc_step (case : CaseMatching) (norm : Normalization) (s : EscSt) (c : Nat) :
    escStep case norm s c =
      if (Gen.Parse.esc_prelude s.saw c s.out).2.2 then
        { s with out := (Gen.Parse.esc_prelude s.saw c s.out).1, saw := (Gen.Parse.esc_prelude s.saw c s.out).2.1 }
      else
        { out := (foldChar case norm c s.ic s.nz).1 :: (Gen.Parse.esc_prelude s.saw c s.out).1,
          saw := (Gen.Parse.esc_prelude s.saw c s.out).2.1,
          ic := (foldChar case norm c s.ic s.nz).2.1, nz := (foldChar case norm c s.ic s.nz).2.2 } := by
  obtain ⟨out, saw, ic, nz⟩ := s
  unfold escStep Gen.Parse.esc_prelude
  by_cases h32 : c = 32
  · subst h32; cases saw <;> rfl
  by_cases h92 : c = 92
  · subst h92; cases saw <;> rfl
  have e32 : (c == 32) = false := beq_false_of_ne h32
  have e92 : (c == 92) = false := beq_false_of_ne h92
  simp only [e32, e92, h32, h92, and_false, if_false, Bool.false_eq_true]
  cases saw <;> rfl

/-- behind the loop a pending backslash is pushed -/
theorem C14_translated_pending : Gen.Parse.esc_pending_push = 92 := rfl

end NucleoVerif
