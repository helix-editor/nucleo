import NucleoVerif.Model.Score
import NucleoVerif.Gen.ScoreLoop
/-! # C03 (companion file) — the scoring loop of `calculate_score`, translated from the source, is the model's state machine

`Gen/ScoreLoop.lean` is produced on every run from `matcher/src/score.rs` by symbolic execution of `calculate_score`: the
unrolled first iteration, the two branches of the loop body over the mutable variables, and the `prefer_prefix` tail.
They coincide with `stInit` / `stepMatch` / `stepSkip` / `prefixBonusCs` of `Model/Score.lean`, which C03 is about. -/
namespace NucleoVerif
open Gen Gen.ScoreLoop

/-- the unrolled first iteration -/
theorem C03_translated_first (cfg : Cfg) (prev cls : CharClass) :
    (stInit cfg prev cls).score = first_score (bonusFor cfg prev cls) ∧
    (stInit cfg prev cls).inGap = init_in_gap ∧ (stInit cfg prev cls).consec = decide (init_consecutive ≠ 0) ∧
    (stInit cfg prev cls).firstBonus = bonusFor cfg prev cls := by
  refine ⟨rfl, rfl, rfl, rfl⟩

/-- the matching branch: the model's `consec` flag is `consecutive != 0` -/
theorem C03_translated_match (cfg : Cfg) (s : St) (cls : CharClass) (k : Nat) (hk : s.consec = decide (k ≠ 0)) :
    stepMatch cfg s cls =
      { score := (match_step (bonusFor cfg s.prev cls) s.firstBonus s.score s.inGap k).score, prev := cls,
        inGap := (match_step (bonusFor cfg s.prev cls) s.firstBonus s.score s.inGap k).in_gap,
        consec := decide ((match_step (bonusFor cfg s.prev cls) s.firstBonus s.score s.inGap k).consecutive ≠ 0),
        firstBonus := (match_step (bonusFor cfg s.prev cls) s.firstBonus s.score s.inGap k).first_bonus } := by
  unfold stepMatch match_step sat16
  by_cases hk0 : k = 0
  · subst hk0
    simp only [ne_eq, not_true_eq_false, decide_false] at hk
    simp [hk]
  · have : s.consec = true := by rw [hk]; simp [hk0]
    simp only [this, if_true, ne_eq, hk0, not_false_eq_true, decide_true, Bool.and_eq_true, decide_eq_true_eq]
    congr 1

/-- the non-matching branch, for every value `b`, `k` of `bonus` and `consecutive` (it overwrites or ignores them) -/
theorem C03_translated_skip (s : St) (cls : CharClass) (b k : Nat) :
    stepSkip s cls =
      { score := (skip_step b s.firstBonus s.score s.inGap k).score, prev := cls,
        inGap := (skip_step b s.firstBonus s.score s.inGap k).in_gap,
        consec := decide ((skip_step b s.firstBonus s.score s.inGap k).consecutive ≠ 0),
        firstBonus := (skip_step b s.firstBonus s.score s.inGap k).first_bonus } := by
  unfold stepSkip skip_step
  simp

theorem sat_add_sat (a b : Nat) : min (a + min b 65535) 65535 = min (a + b) 65535 := by
  rcases Nat.le_total b 65535 with h | h
  · rw [Nat.min_eq_left h]
  · rw [Nat.min_eq_right h, Nat.min_eq_right (by omega), Nat.min_eq_right (by omega)]

/-- a penalty that saturates is so large that its `s`-th part exceeds the bonus it is subtracted from -/
theorem sub_div_sat (k p s : Nat) (hs : 0 < s) (hk : k * s ≤ 65535) : k - min p 65535 / s = k - p / s := by
  rcases Nat.le_total p 65535 with h | h
  · rw [Nat.min_eq_left h]
  · have hk' : k ≤ 65535 / s := (Nat.le_div_iff_mul_le hs).mpr hk
    rw [Nat.min_eq_right h, Nat.sub_eq_zero_of_le hk',
      Nat.sub_eq_zero_of_le (Nat.le_trans hk' (Nat.div_le_div_right h))]

/-- the `prefer_prefix` tail (the source saturates the intermediate products, the model does not: the results agree) -/
theorem C03_translated_prefix_tail (cfg : Cfg) (score start : Nat) (hs : score ≤ 65535) :
    sat16 (score + prefixBonusCs cfg start) =
      if cfg.preferPrefix then prefix_tail score start (min (start - 1) 65535) else score := by
  unfold prefixBonusCs prefix_tail sat16
  cases cfg.preferPrefix with
  | false => exact Nat.min_eq_left hs
  | true =>
    by_cases h0 : start = 0
    · rw [if_pos rfl, if_pos rfl, if_neg (Decidable.not_not.mpr h0), if_neg (Decidable.not_not.mpr h0)]
    · rw [if_pos rfl, if_pos rfl, if_pos h0, if_pos h0, sat_add_sat, sub_div_sat _ _ _ (by decide) (by decide)]

end NucleoVerif
