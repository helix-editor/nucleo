import NucleoVerif.Props.C15
/-! # C15 (companion file) — a multi-column pattern is the same conjunction across columns

`MultiPattern::score` (the scoring function of the worker, `src/pattern.rs`) zips the column patterns with the item's
column texts.  For every number of columns, every column pattern and every column text: the item matches exactly when
every column's pattern matches that column's text — column `k` against text `k`, whether or not other columns are
empty — and the score is the sum of the columns' scores. -/
namespace NucleoVerif

/-- column `k`'s result: the `k`-th pattern on the `k`-th text -/
def columnResults (cfg : Cfg) (ext : Ext) (ps : List (List Atom)) (hs : List (Rep × List Nat)) : List MRes :=
  List.zipWith (fun p h => patternEval p cfg ext h.1 h.2) ps hs

theorem C15_multi (cfg : Cfg) (ext : Ext) : ∀ (ps : List (List Atom)) (hs : List (Rep × List Nat)),
    multiEval cfg ext ps hs =
      if (columnResults cfg ext ps hs).all (·.isSome) then
        some ((columnResults cfg ext ps hs).map (fun r => (r.map (·.1)).getD 0)).sum
      else none := by
  intro ps
  induction ps with
  | nil => intro hs; simp [multiEval, columnResults]
  | cons p ps ih =>
    intro hs
    cases hs with
    | nil => simp [multiEval, columnResults]
    | cons h hs =>
      simp only [multiEval, columnResults, List.zipWith_cons_cons, List.all_cons, List.map_cons, List.sum_cons]
      cases hp : patternEval p cfg ext h.1 h.2 with
      | none => simp
      | some r =>
        have := ih hs
        simp only [columnResults] at this
        rw [this]
        by_cases hall : (List.zipWith (fun p h => patternEval p cfg ext h.1 h.2) ps hs).all (·.isSome) = true
        · simp [hall]
        · simp [hall]

theorem multiEval_cons_isSome (cfg : Cfg) (ext : Ext) (p : List Atom) (ps : List (List Atom)) (h : Rep × List Nat)
    (hs : List (Rep × List Nat)) :
    (multiEval cfg ext (p :: ps) (h :: hs)).isSome =
      ((patternEval p cfg ext h.1 h.2).isSome && (multiEval cfg ext ps hs).isSome) := by
  rw [multiEval]
  cases patternEval p cfg ext h.1 h.2 with
  | none => rfl
  | some r => exact Option.isSome_map

/-- a column with an empty pattern contributes nothing and never rejects — and it still *occupies its place*: the
    patterns after it are matched against their own columns -/
theorem C15_multi_empty_column (cfg : Cfg) (ext : Ext) (ps : List (List Atom)) (h : Rep × List Nat) (hs : List (Rep × List Nat)) :
    multiEval cfg ext ([] :: ps) (h :: hs) = multiEval cfg ext ps hs := by
  simp only [multiEval, C15_empty]
  cases multiEval cfg ext ps hs <;> simp

/-- a multi-column pattern all of whose columns are empty (what `MultiPattern::is_empty` tests and the worker's
    trivial path relies on) matches every item with score 0 -/
theorem C15_multi_all_empty (cfg : Cfg) (ext : Ext) : ∀ (ps : List (List Atom)) (hs : List (Rep × List Nat)),
    (∀ p ∈ ps, p = []) → multiEval cfg ext ps hs = some 0 := by
  intro ps
  induction ps with
  | nil => intro hs _; cases hs <;> rfl
  | cons p ps ih =>
    intro hs hall
    cases hs with
    | nil => rfl
    | cons h hs =>
      have hp : p = [] := hall p (List.mem_cons_self ..)
      subst hp
      rw [C15_multi_empty_column]
      exact ih hs (fun q hq => hall q (List.mem_cons_of_mem _ hq))

/-- the hypothesis `EmpOk` of the worker-protocol theorems (C06 / C07), instantiated with the scoring function the worker
    uses: when the pattern ids flagged empty are those whose columns are all empty, an empty pattern gives every item
    score 0 -/
theorem C15_empOk (cfg : Cfg) (ext : Ext) (patterns : Nat → List (List Atom)) (columns : Nat → List (Rep × List Nat)) (emp : Nat → Bool)
    (hemp : ∀ p, emp p = true → ∀ q ∈ patterns p, q = []) :
    ∀ p it, emp p = true → multiEval cfg ext (patterns p) (columns it) = some 0 :=
  fun p it h => C15_multi_all_empty cfg ext _ _ (hemp p h)

end NucleoVerif
