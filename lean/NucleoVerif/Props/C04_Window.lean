import NucleoVerif.Lemmas.DPWindow
import NucleoVerif.Lemmas.Subseq
import NucleoVerif.Lemmas.Entry
/-! # C04 — the prefilter window loses nothing against the full matrix

"The score is never lower than the value of the two-matrix recurrence evaluated naively on the full matrix": the
matcher evaluates the recurrence only on the window `h[start..end]` the prefilter hands it.  That is the full-matrix
value (score and alignment), because `start` is the first occurrence of the first needle character and `end` is one past
the last occurrence of the last. -/
namespace NucleoVerif
open Gen Spec DP Sub

theorem subseqB_skip_pre (n0 : Nat) (ns : List Nat) : ∀ (pre L : List Nat), (∀ c ∈ pre, c ≠ n0) →
    subseqB (n0 :: ns) (pre ++ L) = subseqB (n0 :: ns) L := by
  intro pre
  induction pre with
  | nil => intro L _; rfl
  | cons c pre ih =>
    intro L h
    have hc : ¬ (n0 = c) := fun e => h c (by simp) e.symm
    simp only [List.cons_append, subseqB, hc, if_false]
    exact ih L (fun d hd => h d (by simp [hd]))

theorem subseqB_drop_post (n : List Nat) (nlast : Nat) (hl : n.getLast? = some nlast) (L post : List Nat)
    (hp : ∀ c ∈ post, c ≠ nlast) : subseqB n (L ++ post) = subseqB n L := by
  cases hR : subseqB n L with
  | true => exact subseqB_of_sublist_hay n L (L ++ post) hR (List.sublist_append_left L post)
  | false =>
    cases hF : subseqB n (L ++ post) with
    | false => rfl
    | true =>
      exfalso
      have hs := (subseqB_iff_sublist n (L ++ post)).mp hF
      obtain ⟨n1, n2, e, s1, s2⟩ := List.sublist_append_iff.mp hs
      cases n2 with
      | nil =>
        rw [List.append_nil] at e
        rw [e] at hR
        rw [(subseqB_iff_sublist n1 L).mpr s1] at hR
        cases hR
      | cons x xs =>
        have hlast : n.getLast? = (x :: xs).getLast? := by
          rw [e, List.getLast?_append]
          cases h : (x :: xs).getLast? with
          | none => simp at h
          | some v => rfl
        rw [hl] at hlast
        have hmem : nlast ∈ x :: xs := List.mem_of_getLast? hlast.symm
        exact hp nlast (s2.subset hmem) rfl

/-- the recurrence on a list of columns (prefix preference off): the best cell of the last row -/
def dpCols (cols : List Col) (n0 : Nat) (ns : List Nat) : Option Cell :=
  if !setupMatched (n0 :: ns) cols then none else bestCell (allRows cols ns (firstRow n0 cols 0)) none

theorem dpCols_window (pre : List Col) (w0 : Col) (W post : List Col) (n0 : Nat) (ns : List Nat) (nlast : Nat)
    (hl : (n0 :: ns).getLast? = some nlast) (hpre : ∀ c ∈ pre, c.ch ≠ n0) (hpost : ∀ c ∈ post, c.ch ≠ nlast) :
    dpCols (pre ++ ((w0 :: W) ++ post)) n0 ns = dpCols (w0 :: W) n0 ns := by
  unfold dpCols
  have hsm : setupMatched (n0 :: ns) (pre ++ ((w0 :: W) ++ post)) = setupMatched (n0 :: ns) (w0 :: W) := by
    have hpre' : ∀ c ∈ pre.map (·.ch), c ≠ n0 := fun c hc => by
      obtain ⟨d, hd, rfl⟩ := List.mem_map.mp hc
      exact hpre d hd
    have hpost' : ∀ c ∈ post.map (·.ch), c ≠ nlast := fun c hc => by
      obtain ⟨d, hd, rfl⟩ := List.mem_map.mp hc
      exact hpost d hd
    rw [setupMatched_subseqB, setupMatched_subseqB, List.map_append, List.map_append, subseqB_skip_pre n0 ns _ _ hpre']
    exact subseqB_drop_post (n0 :: ns) nlast hl _ _ hpost'
  rw [hsm]
  split
  · rfl
  · rw [firstRow_nones n0 pre _ hpre]
    rw [show (w0 :: W) ++ post = w0 :: (W ++ post) from rfl, allRows_nones pre w0 (W ++ post) ns, bestCell_nones]
    rw [show w0 :: (W ++ post) = (w0 :: W) ++ post from rfl]
    obtain ⟨pb', efr⟩ := firstRow_append n0 (w0 :: W) post 0
    rw [efr]
    -- split the needle tail at its last character
    by_cases hns : ns = []
    · -- one-character needle: the only row is the first one
      subst hns
      have : nlast = n0 := by simpa using hl.symm
      subst this
      simp only [allRows]
      rw [firstRow_none_of_ch nlast post pb' hpost, bestCell_append_nones]
    · have hdec : ns = ns.dropLast ++ [ns.getLast hns] := (List.dropLast_concat_getLast hns).symm
      have hnl : ns.getLast hns = nlast := by
        have h1 : (n0 :: ns).getLast? = ns.getLast? := by
          cases ns with
          | nil => exact absurd rfl hns
          | cons a t => rfl
        rw [h1, List.getLast?_eq_some_getLast hns] at hl
        exact Option.some.inj hl
      rw [hdec, hnl]
      rw [allRows_suffix w0 W post ns.dropLast nlast _ _ (firstRow_length n0 _ 0) (firstRow_length n0 post pb') hpost]
      rw [bestCell_append_nones]

theorem windowCols_eq_slice (cfg : Cfg) (ext : Ext) (hrep : Rep) (h : List Nat) (s e : Nat) :
    windowCols cfg ext hrep h s e = ((windowCols cfg ext hrep h 0 h.length).drop s).take (e - s) := by
  apply List.ext_getElem?
  intro k
  rw [List.getElem?_take, List.getElem?_drop, windowCols_getElem?, windowCols_getElem?, List.getElem?_take,
    List.drop_zero, Nat.sub_zero, List.take_length, List.getElem?_drop, Nat.zero_add]
  split <;> rfl

theorem windowCols_split (cfg : Cfg) (ext : Ext) (hrep : Rep) (h : List Nat) (s e : Nat) (hse : s ≤ e) (he : e ≤ h.length) :
    windowCols cfg ext hrep h 0 h.length =
      windowCols cfg ext hrep h 0 s ++ (windowCols cfg ext hrep h s e ++ windowCols cfg ext hrep h e h.length) := by
  rw [windowCols_eq_slice cfg ext hrep h 0 s, windowCols_eq_slice cfg ext hrep h s e,
    windowCols_eq_slice cfg ext hrep h e h.length]
  have hlen : (windowCols cfg ext hrep h 0 h.length).length = h.length := by
    rw [windowCols_length, Nat.sub_zero, Nat.min_self]
  generalize windowCols cfg ext hrep h 0 h.length = F at hlen ⊢
  rw [List.drop_zero, Nat.sub_zero, List.take_of_length_le (l := F.drop e) (by rw [List.length_drop, hlen]; exact Nat.le_refl _)]
  -- `F = F.take s ++ (F.drop s).take (e - s) ++ F.drop e`
  have h3 : (F.drop s).drop (e - s) = F.drop e := by rw [List.drop_drop, Nat.add_sub_cancel' hse]
  rw [← h3, List.take_append_drop, List.take_append_drop]

theorem optimalDP_eq_dpCols (cfg : Cfg) (ext : Ext) (hrep : Rep) (h : List Nat) (n0 : Nat) (ns : List Nat) (s e : Nat)
    (hpp : cfg.preferPrefix = false) :
    optimalDP cfg ext hrep h (n0 :: ns) s e = (dpCols (windowCols cfg ext hrep h s e) n0 ns).map (fun c => (c.score, c.path)) := by
  have hps : prefixStart cfg s = 0 := by rw [prefixStart, hpp]; rfl
  unfold optimalDP dpCols
  simp only [hps]
  split <;> rfl

theorem mem_cols_ch (cfg : Cfg) (ext : Ext) (hrep : Rep) (h : List Nat) (s e : Nat) (c : Col)
    (hc : c ∈ windowCols cfg ext hrep h s e) : ∃ x ∈ (h.drop s).take (e - s), c.ch = cnorm cfg hrep x := by
  obtain ⟨k, hk⟩ := List.getElem?_of_mem hc
  obtain ⟨x, hx, rfl⟩ := windowCols_mem hk
  exact ⟨x, List.mem_of_getElem? hx, rfl⟩

/-- The window is the full matrix: when the first needle character does not occur in front of `start` and the last
    needle character does not occur at or behind `end`, the recurrence evaluated on the window `h[start..end]` returns
    exactly what it returns on all of `h` — the same score and the same alignment (prefix preference off). -/
theorem C04_window_is_full_matrix (cfg : Cfg) (ext : Ext) (hrep : Rep) (h : List Nat) (n0 : Nat) (ns : List Nat) (s e nlast : Nat)
    (hpp : cfg.preferPrefix = false) (hse : s < e) (he : e ≤ h.length) (hl : (n0 :: ns).getLast? = some nlast)
    (hpre : ∀ x ∈ h.take s, cnorm cfg hrep x ≠ n0) (hpost : ∀ x ∈ h.drop e, cnorm cfg hrep x ≠ nlast) :
    optimalDP cfg ext hrep h (n0 :: ns) s e = optimalDP cfg ext hrep h (n0 :: ns) 0 h.length := by
  rw [optimalDP_eq_dpCols cfg ext hrep h n0 ns s e hpp, optimalDP_eq_dpCols cfg ext hrep h n0 ns 0 h.length hpp]
  rw [windowCols_split cfg ext hrep h s e (Nat.le_of_lt hse) he]
  -- the window has at least one column
  have hlen : (windowCols cfg ext hrep h s e).length = e - s := by
    rw [windowCols_length, Nat.min_eq_left (Nat.sub_le_sub_right he s)]
  cases hw : windowCols cfg ext hrep h s e with
  | nil => rw [hw] at hlen; exact absurd hlen.symm (Nat.sub_ne_zero_of_lt hse)
  | cons w0 W =>
    rw [dpCols_window _ w0 W _ n0 ns nlast hl]
    · intro c hc
      obtain ⟨x, hx, e'⟩ := mem_cols_ch cfg ext hrep h 0 s c hc
      rw [e']
      exact hpre x (by simpa using hx)
    · intro c hc
      obtain ⟨x, hx, e'⟩ := mem_cols_ch cfg ext hrep h e h.length c hc
      rw [e']
      exact hpost x (List.mem_of_mem_take hx)

theorem getLast?_cons_some (n0 : Nat) (ns : List Nat) : ∃ nlast, (n0 :: ns).getLast? = some nlast :=
  ⟨(n0 :: ns).getLast (List.cons_ne_nil _ _), List.getLast?_eq_some_getLast _⟩

/-- the window `prefilter_non_ascii` hands to the optimal matcher gives the full-matrix result -/
theorem C04_window_lossless_unicode (cfg : Cfg) (ext : Ext) (h : List Nat) (n0 n1 : Nat) (ns : List Nat) (start e : Nat)
    (hpp : cfg.preferPrefix = false)
    (hp : prefilterNonAscii cfg h (n0 :: n1 :: ns) false = some (start, e)) :
    optimalDP cfg ext .unicode h (n0 :: n1 :: ns) start e = optimalDP cfg ext .unicode h (n0 :: n1 :: ns) 0 h.length := by
  obtain ⟨hstart, hend⟩ := prefilterNonAscii_eq_some hp
  obtain ⟨p, hr, rfl, hlen⟩ := (if_neg Bool.false_ne_true).mp hend
  obtain ⟨nlast, hl⟩ := getLast?_cons_some n0 (n1 :: ns)
  -- the search from the end of `h[start + 1..]` is a search from the end of `h`
  rw [hl, Option.getD_some, List.reverse_drop] at hr
  rw [List.length_cons] at hlen
  refine C04_window_is_full_matrix cfg ext .unicode h n0 (n1 :: ns) start _ nlast hpp
    (Nat.lt_of_sub_pos (Nat.lt_of_lt_of_le (Nat.zero_lt_succ _) hlen)) (Nat.sub_le _ _) hl ?_ ?_
  · intro x hx
    have := findIdx_take_none_before _ h _ start hstart x hx
    rw [decide_eq_false_iff_not] at this
    show cnormChar cfg x ≠ n0
    rwa [cnormChar_eq]
  · intro x hx
    have := findIdx_reverse_none_after _ h p (findIdx_of_take _ _ _ _ hr) x hx
    rw [decide_eq_false_iff_not] at this
    show cnormChar cfg x ≠ nlast
    rwa [cnormChar_eq]

/-- the window `prefilter_ascii` hands to the optimal matcher gives the full-matrix result (the needle already
    normalized, as the matcher receives it) -/
theorem C04_window_lossless_ascii (cfg : Cfg) (ext : Ext) (h : List Nat) (n0 : Nat) (ns : List Nat) (start ge e : Nat)
    (hpp : cfg.preferPrefix = false) (hasc : ∀ c ∈ h, c < 128) (hn : ∀ c ∈ n0 :: ns, normAscii cfg c = c)
    (hp : prefilterAscii cfg h (n0 :: ns) false = some (start, ge, e)) :
    optimalDP cfg ext .ascii h (n0 :: ns) start e = optimalDP cfg ext .ascii h (n0 :: ns) 0 h.length := by
  obtain ⟨s1, s2, s3, _, _⟩ := (prefilterAscii_spec cfg h n0 ns false hn).2 start ge e hp
  obtain ⟨hstart, rest, hg, he⟩ := prefilterAscii_eq_some hp
  obtain ⟨nlast, hl⟩ := getLast?_cons_some n0 ns
  rw [hl, Option.getD_some, if_neg Bool.false_ne_true] at he
  -- `rest` is the haystack from the greedy end on
  obtain ⟨k, _, hrest, hge, _, _⟩ := (asciiGreedyScan_spec cfg ns (h.drop (start + 1)) (start + 1)
    (fun c hc => hn c (List.mem_cons_of_mem _ hc))).2 ge rest hg
  rw [List.drop_drop, ← hge] at hrest
  subst hrest
  -- on an ASCII haystack "normalizes to `c`" is the prefilter's byte comparison with (normalized) `c`
  have hcmp : ∀ c ∈ n0 :: ns, ∀ x ∈ h, asciiEq cfg.ignoreCase c x = false → cnorm cfg .ascii x ≠ c := by
    intro c hc x hx hne heq
    rw [cnorm_eq_norm] at heq
    rw [(asciiEq_iff cfg c x (hn c hc)).mpr heq] at hne
    cases hne
  refine C04_window_is_full_matrix cfg ext .ascii h n0 ns start e nlast hpp (Nat.lt_of_lt_of_le s1 s2) s3 hl ?_ ?_
  · exact fun x hx => hcmp n0 List.mem_cons_self x (List.mem_of_mem_take hx) (findIdx_take_none_before _ h _ start hstart x hx)
  · intro x hx
    refine hcmp nlast (List.mem_of_getLast? hl) x (List.mem_of_mem_drop hx) (rfindIdx_after _ (h.drop ge) x ?_)
    rw [List.drop_drop, ← he]
    exact hx

/-- `fuzzy_match` on a code-point haystack, matrix path (needle of at least two characters, window wider than the
    needle, scratch layout fits the slab): the result is the two-matrix recurrence evaluated on the full matrix -/
theorem C04_fuzzy_is_full_matrix_unicode (cfg : Cfg) (ext : Ext) (nrep : Rep) (h : List Nat) (n0 n1 : Nat) (ns : List Nat) (start e : Nat)
    (hpp : cfg.preferPrefix = false) (hlen : (n0 :: n1 :: ns).length < h.length)
    (hp : prefilterNonAscii cfg h (n0 :: n1 :: ns) false = some (start, e))
    (hw : (n0 :: n1 :: ns).length ≠ e - start) (hfit : slabFits (charSize .unicode) (e - start) (n0 :: n1 :: ns).length = true) :
    fuzzyMatch cfg ext .unicode nrep h (n0 :: n1 :: ns) = optimalDP cfg ext .unicode h (n0 :: n1 :: ns) 0 h.length := by
  rw [← C04_window_lossless_unicode cfg ext h n0 n1 ns start e hpp hp]
  unfold fuzzyMatch
  rw [guards_of_shorter h _ (List.cons_ne_nil _ _) hlen]
  simp only [hp, hw, if_false, fuzzyOptimal, hfit, if_true]

theorem C04_fuzzy_is_full_matrix_ascii (cfg : Cfg) (ext : Ext) (h : List Nat) (n0 n1 : Nat) (ns : List Nat) (start ge e : Nat)
    (hpp : cfg.preferPrefix = false) (hasc : ∀ c ∈ h, c < 128) (hn : ∀ c ∈ n0 :: n1 :: ns, normAscii cfg c = c)
    (hlen : (n0 :: n1 :: ns).length < h.length)
    (hp : prefilterAscii cfg h (n0 :: n1 :: ns) false = some (start, ge, e))
    (hw : (n0 :: n1 :: ns).length ≠ e - start) (hfit : slabFits (charSize .ascii) (e - start) (n0 :: n1 :: ns).length = true) :
    fuzzyMatch cfg ext .ascii .ascii h (n0 :: n1 :: ns) = optimalDP cfg ext .ascii h (n0 :: n1 :: ns) 0 h.length := by
  rw [← C04_window_lossless_ascii cfg ext h n0 (n1 :: ns) start ge e hpp hasc hn hp]
  unfold fuzzyMatch
  rw [guards_of_shorter h _ (List.cons_ne_nil _ _) hlen]
  simp only [hp, hw, if_false, fuzzyOptimal, hfit, if_true]

/-- the hypotheses are met and the window is a proper part of the haystack: `"xabxcbx"` / `"abc"` (window `[1, 5)`) -/
example :
    let cfg : Cfg := { delims := [47, 44, 58, 59, 124], white := 10, delim := 9, initial := .whitespace, normalize := true, ignoreCase := true, preferPrefix := false }
    prefilterAscii cfg [120, 97, 98, 120, 99, 98, 120] [97, 98, 99] false = some (1, 5, 5) ∧
    (optimalDP cfg (fun _ => default) .ascii [120, 97, 98, 120, 99, 98, 120] [97, 98, 99] 1 5).isSome = true := by
  decide

end NucleoVerif
