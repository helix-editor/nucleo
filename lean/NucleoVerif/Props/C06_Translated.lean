import NucleoVerif.Model.Nucleo
import NucleoVerif.Gen.Worker
/-! # C06 (companion file) — the comparison the worker sorts by, translated from the source, is the model's `matchLess`

The order clause of C06 (descending score, then ascending total haystack length, then ascending index; placeholders
last among equal scores) is proved about `Nu.matchLess`.  `Gen/Worker.lean` holds the closure handed to `par_quicksort`
in `Worker::run`, translated statement by statement on every run; the two are the same function. -/
namespace NucleoVerif.Nu

theorem C06_translated_comparison (len : Item → Nat) (items : Nat → Option Item) (a b : Match) :
    matchLess len items a b =
      Gen.Worker.match_less ⟨a.score, a.idx⟩ ⟨b.score, b.idx⟩ ((items a.idx).map len |>.getD 0) ((items b.idx).map len |>.getD 0) := by
  -- the generated closure tests `decide p` where the model tests `p`
  unfold matchLess Gen.Worker.match_less PLACE
  simp only [decide_eq_true_eq]

end NucleoVerif.Nu
