import NucleoVerif.Props.C05_Unicode
/-! # C05 — `substring_match` at the entry point

The dispatch in front of the two substring routines (needle longer than the haystack, equal lengths → `exact_match_impl`,
otherwise the ASCII scan or the code-point scan behind its prefilter) decides, in every branch, whether the needle occurs
contiguously in the normalized haystack. -/
namespace NucleoVerif
open Gen Spec Sub DP

theorem occurrences_isEmpty (cfg : Cfg) (hrep : Rep) (h n : List Nat) :
    (!(occurrences cfg hrep h n).isEmpty) = true ↔
      ∃ i, i + n.length ≤ h.length ∧ ((normHay cfg hrep h).drop i).take n.length = n := by
  rw [Bool.not_eq_true', List.isEmpty_eq_false_iff_exists_mem]
  exact exists_congr (fun i => mem_occurrences cfg hrep h n i)

theorem occurrences_empty_of_long (cfg : Cfg) (hrep : Rep) (h n : List Nat) (hl : n.length > h.length) :
    (!(occurrences cfg hrep h n).isEmpty) = false := by
  apply Bool.eq_false_iff.mpr
  rw [ne_eq, occurrences_isEmpty]
  rintro ⟨i, hi, -⟩
  omega

theorem occurrences_eq_len (cfg : Cfg) (hrep : Rep) (h n : List Nat) (hl : n.length = h.length) :
    (!(occurrences cfg hrep h n).isEmpty) = (normHay cfg hrep h == n) := by
  have hwhole : (normHay cfg hrep h).take n.length = normHay cfg hrep h :=
    List.take_of_length_le (by rw [normHay, List.length_map, hl]; exact Nat.le_refl _)
  rw [Bool.eq_iff_iff, occurrences_isEmpty, beq_iff_eq]
  constructor
  · rintro ⟨i, h1, h2⟩
    rwa [show i = 0 by omega, List.drop_zero, hwhole] at h2
  · intro he
    exact ⟨0, by omega, by rw [List.drop_zero, hwhole, he]⟩

theorem guards_occurrences (cfg : Cfg) (ext : Ext) (hrep nrep : Rep) (h n : List Nat)
    (hk1 : ¬ (hrep = .ascii ∧ nrep = .unicode)) (hn : n.map (norm cfg nrep) = n) (hne : n ≠ []) (rest : MRes)
    (hrest : n.length < h.length → rest.isSome = !(occurrences cfg hrep h n).isEmpty) :
    (if n.length > h.length then none else if n.isEmpty then some (0, []) else
      if n.length = h.length then exactImpl cfg ext hrep nrep h n 0 h.length else rest).isSome =
      !(occurrences cfg hrep h n).isEmpty :=
  guards_isSome cfg ext hrep nrep h n hk1 hn _ rest (occurrences_empty_of_long cfg hrep h n) (fun e => absurd e hne)
    (occurrences_eq_len cfg hrep h n) (fun _ => hrest)

/-- `substring_match` on a code-point haystack decides "the needle occurs contiguously in the normalized haystack" —
    every needle of at least two characters (normalized), whatever its length relative to the haystack -/
theorem C05_substring_entry_unicode (cfg : Cfg) (ext : Ext) (nrep : Rep) (h : List Nat) (n0 n1 : Nat) (ns : List Nat)
    (hb : 8 ≤ maxBonus cfg) (hn : (n0 :: n1 :: ns).map (norm cfg nrep) = n0 :: n1 :: ns) :
    (substringMatch cfg ext .unicode nrep h (n0 :: n1 :: ns)).isSome = !(occurrences cfg .unicode h (n0 :: n1 :: ns)).isEmpty :=
  guards_occurrences cfg ext .unicode nrep h _ (fun e => nomatch e.1) hn (List.cons_ne_nil _ _) _
    (fun hlt => (C05_substring_unicode cfg ext nrep h n0 n1 ns hb (Nat.le_of_lt hlt)).1)

theorem C05_substring_entry_ascii (cfg : Cfg) (ext : Ext) (h : List Nat) (n0 n1 : Nat) (ns : List Nat)
    (hb : 8 ≤ maxBonus cfg) (hasc : ∀ x ∈ h, x < 128) (hn : ∀ c ∈ n0 :: n1 :: ns, normAscii cfg c = c) :
    (substringMatch cfg ext .ascii .ascii h (n0 :: n1 :: ns)).isSome = !(occurrences cfg .ascii h (n0 :: n1 :: ns)).isEmpty :=
  guards_occurrences cfg ext .ascii .ascii h _ (fun e => nomatch e.2) (map_eq_self _ _ hn) (List.cons_ne_nil _ _) _
    (fun hlt => (C05_substring_ascii cfg ext h n0 (n1 :: ns) hb hasc hn (Nat.le_of_lt hlt)).1)

end NucleoVerif
