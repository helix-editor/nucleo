import NucleoVerif.Model.Boxcar
/-! # C08 — the injector's item vector is a linearizable append-only sequence

Location arithmetic, the single atomic steps, and an invariant over all interleavings (`Inv`) that gives stability of
published entries and read-your-writes.  `SKIP = 32 = 2^SKIP_BUCKET`, `BUCKETS = 27`, `MAX_ENTRIES = 2^32 - 33`
(`Gen/Boxcar.lean`): the literals `31`, `32` in the first proofs are these. -/
namespace NucleoVerif.Bx
open Gen

theorem shifted_ne_zero (i : Nat) : i + SKIP ≠ 0 := Nat.add_one_ne_zero (i + 31)

theorem skipBucket_le_log2 (i : Nat) : SKIP_BUCKET ≤ Nat.log2 (i + SKIP) :=
  (Nat.le_log2 (shifted_ne_zero i)).mpr (Nat.le_add_left 32 i)

theorem pow_log2_bounds (i : Nat) :
    SKIP ≤ 2 ^ Nat.log2 (i + SKIP) ∧ 2 ^ Nat.log2 (i + SKIP) ≤ i + SKIP ∧
    i + SKIP < 2 * 2 ^ Nat.log2 (i + SKIP) := by
  refine ⟨Nat.pow_le_pow_right (Nat.zero_lt_succ 1) (skipBucket_le_log2 i), Nat.log2_self_le (shifted_ne_zero i), ?_⟩
  rw [Nat.mul_comm, ← Nat.pow_succ]
  exact Nat.lt_log2_self

theorem bucketLen_bucketOf (i : Nat) : bucketLen (bucketOf i) = 2 ^ Nat.log2 (i + SKIP) :=
  congrArg (2 ^ ·) (Nat.sub_add_cancel (skipBucket_le_log2 i))

/-- **the entry is always inside its bucket** (`location.entry` is in bounds) -/
theorem C08_entry_lt (i : Nat) : entryOf i < bucketLen (bucketOf i) := by
  rw [bucketLen_bucketOf]
  have ⟨_, hle, hlt⟩ := pow_log2_bounds i
  exact Nat.sub_lt_left_of_lt_add hle (Nat.two_mul _ ▸ hlt)

/-- first index of bucket `b`: 32·(2^b − 1) -/
def bucketStart (b : Nat) : Nat := bucketLen b - SKIP

/-- **buckets tile the index space**: index = start of its bucket + entry -/
theorem C08_index_eq (i : Nat) : i = bucketStart (bucketOf i) + entryOf i := by
  have ⟨hs, hle, _⟩ := pow_log2_bounds i
  unfold bucketStart entryOf
  rw [bucketLen_bucketOf, Nat.add_comm, Nat.sub_add_sub_cancel hle hs, Nat.add_sub_cancel]

/-- **two indices never share a (bucket, entry) location** -/
theorem C08_loc_injective (i j : Nat) (hb : bucketOf i = bucketOf j) (he : entryOf i = entryOf j) : i = j := by
  rw [C08_index_eq i, C08_index_eq j, hb, he]

theorem C08_bucket_lt (i : Nat) (h : i ≤ MAX_ENTRIES) : bucketOf i < BUCKETS := by
  have : Nat.log2 (i + SKIP) < 32 :=
    (Nat.log2_lt (shifted_ne_zero i)).mpr (Nat.add_lt_add_right (Nat.lt_succ_of_le h) 32)
  exact Nat.sub_lt_left_of_lt_add (skipBucket_le_log2 i) this

theorem upd_self {α} (f : Nat → α) (k : Nat) (a : α) : upd f k a k = a := if_pos rfl

theorem upd_of_ne {α} (f : Nat → α) (a : α) {k x : Nat} (h : x ≠ k) : upd f k a x = f x := if_neg h

theorem Eff.inflight_le (s : Shared) : ∀ e : Eff, s.inflight ≤ (e.apply s).inflight
  | .fa k => Nat.le_add_right _ k
  | .nop | .pub _ | .wr _ _ => Nat.le_refl _

theorem Eff.bucket_mono {s : Shared} {b : Nat} (h : s.bucket b = true) : ∀ e : Eff, (e.apply s).bucket b = true
  | .pub b' => by
    by_cases e : b = b'
    · exact e ▸ upd_self ..
    · exact (upd_of_ne _ _ e).trans h
  | .nop | .fa _ | .wr _ _ => h

theorem Eff.pub_bucket (s : Shared) (b : Nat) : ((Eff.pub b).apply s).bucket b = true := upd_self ..

theorem Eff.slot_apply (s : Shared) (i : Nat) :
    ∀ e : Eff, (e.apply s).slot i = s.slot i ∨ ∃ v, e = .wr i v ∧ (e.apply s).slot i = some v
  | .wr j v => by
    by_cases e : i = j
    · exact .inr ⟨v, e ▸ rfl, e ▸ upd_self ..⟩
    · exact .inl (upd_of_ne _ _ e)
  | .nop | .fa _ | .pub _ => .inl rfl

theorem fst_ite_cases {α β} {c : Prop} [Decidable c] (a b : α × β) :
    (if c then a else b).1 = a.1 ∨ (if c then a else b).1 = b.1 := by
  split
  · exact .inl rfl
  · exact .inr rfl

/-- `fetch_add` hands out exactly the next index: **gap-free** -/
theorem C08_push_reserves (s : Shared) (v : Nat) :
    (stepPC s (.pushFA v)).1.inflight = s.inflight + 1 ∧
    ((stepPC s (.pushFA v)).2.1 = .pushEager s.inflight v ∨ (stepPC s (.pushFA v)).2.1 = .pushLoad s.inflight v) :=
  ⟨rfl, fst_ite_cases _ _⟩

/-- a batch gets the contiguous block `[inflight, inflight + reported)` -/
theorem C08_extend_reserves (s : Shared) (rep : Nat) (vals : List Nat) :
    (stepPC s (.extFA rep vals)).1.inflight = s.inflight + rep ∧
    ((stepPC s (.extFA rep vals)).2.1 = .extEager s.inflight rep vals ∨ (stepPC s (.extFA rep vals)).2.1 = .extLoad s.inflight rep 0 vals) :=
  ⟨rfl, fst_ite_cases _ _⟩

/-- the final step of a push publishes exactly its value at exactly its index and returns that index -/
theorem C08_push_publishes (s : Shared) (i v : Nat) :
    (stepPC s (.pushStore i v)).2.2 = some (.idx i) ∧ (stepPC s (.pushStore i v)).1.slot i = some v ∧
    ∀ j, j ≠ i → (stepPC s (.pushStore i v)).1.slot j = s.slot j :=
  ⟨rfl, upd_self .., fun _ hj => upd_of_ne _ _ hj⟩

/-- a lookup returns nothing or the published value -/
theorem C08_get_sound (s : Shared) (i : Nat) :
    (stepPC s (.getActive i)).2.2 = some (match s.slot i with | some v => .val v | none => .none) := by
  show (match s.slot i with | some v => _ | none => _ : PC × Option Res).2 = _
  cases s.slot i <;> rfl

theorem nextOf_getActive (s : Shared) (i : Nat) : (nextOf s (.getActive i)).1 = .idle := by
  show (match s.slot i with | some v => _ | none => _ : PC × Option Res).1 = _
  cases s.slot i <;> rfl

/-- a lookup of an index whose bucket was never allocated returns nothing without touching an entry -/
theorem C08_get_unallocated (s : Shared) (i : Nat) (h : s.bucket (bucketOf i) = false) :
    (stepPC s (.getLoad i)).2 = (.idle, some .none) :=
  if_neg (ne_true_of_eq_false h)

/-- **no step ever decreases the counter or un-publishes a bucket** (entries: `C08_slot_stable`) -/
theorem C08_monotone (s : Shared) (pc : PC) :
    s.inflight ≤ (stepPC s pc).1.inflight ∧ (∀ b, s.bucket b = true → (stepPC s pc).1.bucket b = true) :=
  ⟨Eff.inflight_le s _, fun _ h => Eff.bucket_mono h _⟩

/-- `count` reports the reservation counter (so it never decreases, by `C08_monotone`) -/
theorem C08_count (s : Shared) : (stepPC s .countLoad).2.2 = some (.cnt (min s.inflight MAX_ENTRIES)) := rfl

/-! ## all interleavings: the reservation / publication invariant

Threads are programs of `push` / `extend` (honest or lying about its length) / `get` / `count` /
`snapshot`; a schedule is any list of thread ids; every step is one atomic operation. -/

/-- the interval `[lo, hi)` of reserved, not yet published indices a thread at `pc` still owns -/
def own : PC → Nat × Nat
  | .pushEager i _ => (i, i + 1)
  | .pushLoad i _ => (i, i + 1)
  | .pushCas i _ => (i, i + 1)
  | .pushStore i _ => (i, i + 1)
  | .extEager s r _ => (s, s + r)
  | .extLoad s r k _ => (s + k, s + r)
  | .extCas s r k _ => (s + k, s + r)
  | .extStore s r k _ => (s + k, s + r)
  | _ => (0, 0)

def owns (pc : PC) (i : Nat) : Prop := (own pc).1 ≤ i ∧ i < (own pc).2

/-- well-formed program counters: a batch writes item `k` only while `k < reported` -/
def wf : PC → Prop
  | .extLoad _ r k _ => k < r
  | .extCas _ r k _ => k < r
  | .extStore _ r k vals => k < r ∨ vals = []
  | .extEager _ r _ => 0 < r
  | .extFA r _ => 0 < r
  | _ => True

/-- `pc` is well-formed and every index it owns lies in `[lo, hi)`.  Used on program counters in constructor form,
    where `wf pc` and `own pc` reduce by unfolding. -/
def Within (pc : PC) (lo hi : Nat) : Prop := wf pc ∧ ∀ i, owns pc i → lo ≤ i ∧ i < hi

theorem Within.of_wf {pc : PC} (hw : wf pc) : Within pc (own pc).1 (own pc).2 := ⟨hw, fun _ h => h⟩

theorem Within.free {pc : PC} {lo hi : Nat} (hw : wf pc) (h : (own pc).2 = 0) : Within pc lo hi :=
  ⟨hw, fun i o => absurd (h ▸ o.2) (Nat.not_lt_zero i)⟩

theorem Within.ite_cases {c : Prop} [Decidable c] {a b : PC × Option Res} {lo hi : Nat}
    (ha : c → Within a.1 lo hi) (hb : ¬ c → Within b.1 lo hi) : Within (if c then a else b).1 lo hi := by
  split
  · exact ha ‹_›
  · exact hb ‹_›

theorem Within.ite {c : Prop} [Decidable c] {a b : PC × Option Res} {lo hi : Nat}
    (ha : Within a.1 lo hi) (hb : Within b.1 lo hi) : Within (if c then a else b).1 lo hi :=
  .ite_cases (fun _ => ha) (fun _ => hb)

theorem extNext_within (start rep k : Nat) (vals : List Nat) :
    Within (extNext start rep k vals).1 (start + k) (start + rep) := by
  cases vals with
  | nil => exact .free trivial rfl
  | cons v vs =>
    exact .ite_cases (fun _ => .free trivial rfl) fun hk =>
      .ite (.of_wf (Nat.lt_of_not_ge hk)) (.of_wf (.inl (Nat.lt_of_not_ge hk)))

theorem extAfterLoad_within (start rep k : Nat) (vals : List Nat) (hk : k < rep) :
    Within (extAfterLoad start rep k vals).1 (start + k) (start + rep) := by
  refine .ite ?_ (.of_wf (.inl hk))
  cases vals with
  | nil => exact .free trivial rfl
  | cons v vs => exact .ite (.free trivial rfl) (.of_wf (.inl hk))

theorem iterNext_within (a b c d : Nat) (acc : List (Nat × Option Nat)) (lo hi : Nat) :
    Within (iterNext a b c d acc).1 lo hi :=
  .ite (.free trivial rfl) (.free trivial rfl)

theorem startOp_within (op : Op) (lo hi : Nat) : Within (startOp op).1 lo hi := by
  cases op with
  | extend rep vals =>
    exact .ite_cases (fun _ => .free trivial rfl) (fun h => .free (Nat.pos_of_ne_zero h) rfl)
  | _ => exact .free trivial rfl

/-- **ownership only shrinks, except that a `fetch_add` acquires exactly the fresh block** -/
theorem nextOf_own (s : Shared) (pc : PC) (hw : wf pc) :
    (Within (nextOf s pc).1 (own pc).1 (own pc).2 ∨
      ∃ k, effOf pc = .fa k ∧ Within (nextOf s pc).1 s.inflight (s.inflight + k)) ∧
    ∀ i v, effOf pc = .wr i v → owns pc i ∧ Within (nextOf s pc).1 (i + 1) (own pc).2 := by
  -- unfolded first, so that each case below shows its `if` to the unifier
  unfold nextOf
  cases pc with
  | pushFA v => exact ⟨.inr ⟨1, rfl, .ite (.of_wf trivial) (.of_wf trivial)⟩, nofun⟩
  | extFA rep vals => exact ⟨.inr ⟨rep, rfl, .ite (.of_wf hw) (.of_wf hw)⟩, nofun⟩
  | pushStore i v =>
    refine ⟨.inl (.free trivial rfl), fun j w e => ?_⟩
    cases e
    exact ⟨⟨Nat.le_refl i, Nat.lt_succ_self i⟩, .free trivial rfl⟩
  | extStore start rep k vals =>
    cases vals with
    | nil => exact ⟨.inl (.free trivial rfl), nofun⟩
    | cons v rest =>
      have hk : k < rep := hw.resolve_right nofun
      have hn := extNext_within start rep (k + 1) rest
      refine ⟨.inl ⟨hn.1, fun i h => ⟨Nat.le_of_succ_le (hn.2 i h).1, (hn.2 i h).2⟩⟩, fun j w e => ?_⟩
      cases e
      exact ⟨⟨Nat.le_refl _, Nat.add_lt_add_left hk start⟩, hn⟩
  | extLoad start rep k vals => exact ⟨.inl (.ite (extAfterLoad_within start rep k vals hw) (.of_wf hw)), nofun⟩
  | extCas start rep k vals => exact ⟨.inl (extAfterLoad_within start rep k vals hw), nofun⟩
  | extEager start rep vals => exact ⟨.inl (.of_wf hw), nofun⟩
  | pushLoad i v => exact ⟨.inl (.ite (.of_wf trivial) (.of_wf trivial)), nofun⟩
  | getLoad _ | snapCount _ => exact ⟨.inl (.ite (.free trivial rfl) (.free trivial rfl)), nofun⟩
  | getActive i =>
    refine ⟨.inl ?_, nofun⟩
    show Within (nextOf s (.getActive i)).1 0 0
    rw [nextOf_getActive]
    exact .free trivial rfl
  | snapLoad _ | iterActive _ _ _ _ _ => exact ⟨.inl (iterNext_within ..), nofun⟩
  | iterLoad idx end_ b e acc =>
    exact ⟨.inl (.ite (.ite (.free trivial rfl) (iterNext_within ..)) (.free trivial rfl)), nofun⟩
  | idle | pushEager _ _ | pushCas _ _ | countLoad => exact ⟨.inl (.of_wf trivial), nofun⟩

/-- a system: one shared vector and any number of threads (indexed by `Nat`) -/
structure Sys where
  shared : Shared
  threads : Nat → Thread

/-- thread `t` performs its next atomic operation (all other threads are untouched) -/
def Sys.step (σ : Sys) (t : Nat) : Sys :=
  let r := stepThread σ.shared (σ.threads t)
  { shared := r.1, threads := upd σ.threads t r.2 }

def Sys.run (σ : Sys) (sched : List Nat) : Sys := sched.foldl Sys.step σ

/-- `settle` only moves an idle thread to the first atomic operation of a queued operation: it never
    creates ownership -/
theorem settle_within {lo hi : Nat} :
    ∀ (fuel : Nat) (t : Thread), Within t.pc lo hi → Within (settle fuel t).pc lo hi
  | 0, _, h => h
  | fuel + 1, t, h => by
    unfold settle
    split
    · next op rest _ _ =>
      cases hr : (startOp op).2 with
      | some res =>
        rw [show startOp op = ((startOp op).1, some res) from Prod.ext rfl hr]
        exact settle_within fuel _ (.free trivial rfl)
      | none =>
        rw [show startOp op = ((startOp op).1, none) from Prod.ext rfl hr]
        exact startOp_within op lo hi
    · exact h

/-- the reservation / publication invariant of a system state -/
structure Inv (σ : Sys) : Prop where
  wf : ∀ t, wf (σ.threads t).pc
  /-- everything owned has been reserved -/
  owned_lt : ∀ t i, owns (σ.threads t).pc i → i < σ.shared.inflight
  /-- no index is owned by two threads -/
  owned_unique : ∀ t t' i, owns (σ.threads t).pc i → owns (σ.threads t').pc i → t = t'
  /-- a published entry was reserved and is no longer owned by anybody -/
  slot_lt : ∀ i v, σ.shared.slot i = some v → i < σ.shared.inflight ∧ ∀ t, ¬ owns (σ.threads t).pc i

theorem stepThread_own (s : Shared) (th : Thread) (hw : wf th.pc) :
    (Within (stepThread s th).2.pc (own th.pc).1 (own th.pc).2 ∨
      ∃ k, effOf th.pc = .fa k ∧ Within (stepThread s th).2.pc s.inflight (s.inflight + k)) ∧
    ∀ i v, effOf th.pc = .wr i v → owns th.pc i ∧ Within (stepThread s th).2.pc (i + 1) (own th.pc).2 := by
  have ⟨hn, hwr⟩ := nextOf_own s th.pc hw
  have hs : ∀ {lo hi}, Within (nextOf s th.pc).1 lo hi → Within (stepThread s th).2.pc lo hi := by
    intro lo hi h
    unfold stepThread stepPC
    dsimp only
    cases (nextOf s th.pc).2 <;> exact settle_within _ _ h
  exact ⟨hn.imp hs fun ⟨k, hk, h⟩ => ⟨k, hk, hs h⟩, fun i v he => (hwr i v he).imp_right hs⟩

theorem Sys.step_shared (σ : Sys) (t : Nat) : (σ.step t).shared = (effOf (σ.threads t).pc).apply σ.shared := rfl

theorem Sys.step_self (σ : Sys) (t : Nat) : (σ.step t).threads t = (stepThread σ.shared (σ.threads t)).2 :=
  upd_self ..

theorem Sys.step_other (σ : Sys) {t t' : Nat} (h : t' ≠ t) : (σ.step t).threads t' = σ.threads t' :=
  upd_of_ne _ _ h

theorem Sys.step_owns {σ : Sys} (t : Nat) (hw : wf (σ.threads t).pc) (t' i : Nat)
    (h : owns ((σ.step t).threads t').pc i) :
    owns (σ.threads t').pc i ∨ t' = t ∧ σ.shared.inflight ≤ i ∧ i < (σ.step t).shared.inflight := by
  by_cases e : t' = t
  · subst e
    rw [Sys.step_self] at h
    rcases (stepThread_own σ.shared (σ.threads t') hw).1 with w | ⟨k, hk, w⟩
    · exact .inl (w.2 i h)
    · refine .inr ⟨rfl, (w.2 i h).1, ?_⟩
      rw [Sys.step_shared, hk]
      exact (w.2 i h).2
  · exact .inl (Sys.step_other σ e ▸ h)

/-- **distinct, gap-free indices**: the block `[inflight, inflight + k)` a `fetch_add` hands out is not
    owned by any thread and holds no published entry -/
theorem C08_fresh_block {σ : Sys} (hi : Inv σ) (i : Nat) (h : σ.shared.inflight ≤ i) :
    (∀ t, ¬ owns (σ.threads t).pc i) ∧ σ.shared.slot i = none := by
  refine ⟨fun t ho => Nat.not_lt_of_le h (hi.owned_lt t i ho), ?_⟩
  cases hs : σ.shared.slot i with
  | none => rfl
  | some v => exact absurd (hi.slot_lt i v hs).1 (Nat.not_lt_of_le h)

/-- **the invariant is preserved by every step of every thread** -/
theorem Inv.step {σ : Sys} (hi : Inv σ) (t : Nat) : Inv (σ.step t) := by
  have hinf : σ.shared.inflight ≤ (σ.step t).shared.inflight := Eff.inflight_le _ _
  have hown := Sys.step_owns t (hi.wf t)
  have ⟨hnext, hwr⟩ := stepThread_own σ.shared (σ.threads t) (hi.wf t)
  constructor
  · intro t'
    by_cases e : t' = t
    · rw [e, Sys.step_self]
      exact hnext.elim (·.1) fun ⟨_, _, w⟩ => w.1
    · rw [Sys.step_other σ e]
      exact hi.wf t'
  · intro t' i ho
    rcases hown t' i ho with h | ⟨_, _, h⟩
    · exact Nat.lt_of_lt_of_le (hi.owned_lt t' i h) hinf
    · exact h
  · intro t1 t2 i o1 o2
    rcases hown t1 i o1 with h1 | ⟨e1, f1, _⟩
    · rcases hown t2 i o2 with h2 | ⟨_, f2, _⟩
      · exact hi.owned_unique t1 t2 i h1 h2
      · exact absurd h1 ((C08_fresh_block hi i f2).1 t1)
    · rcases hown t2 i o2 with h2 | ⟨e2, _, _⟩
      · exact absurd h2 ((C08_fresh_block hi i f1).1 t2)
      · rw [e1, e2]
  · intro i v hs
    rw [Sys.step_shared] at hs
    -- was the entry already published, or is it the one written by this step?
    rcases Eff.slot_apply σ.shared i (effOf (σ.threads t).pc) with hold | ⟨w, he, hnew⟩
    · have ⟨a, b⟩ := hi.slot_lt i v (hold ▸ hs)
      refine ⟨Nat.lt_of_lt_of_le a hinf, fun t' ho => ?_⟩
      rcases hown t' i ho with h | ⟨_, f, _⟩
      · exact b t' h
      · exact Nat.not_lt_of_le f a
    · have ⟨ow, rest⟩ := hwr i w he
      have a := hi.owned_lt t i ow
      refine ⟨Nat.lt_of_lt_of_le a hinf, fun t' ho => ?_⟩
      rcases hown t' i ho with h | ⟨_, f, _⟩
      · have e := hi.owned_unique t' t i h ow
        rw [e, Sys.step_self] at ho
        exact Nat.lt_irrefl i (rest.2 i ho).1
      · exact Nat.not_lt_of_le f a

theorem Inv.run {σ : Sys} (hi : Inv σ) (sched : List Nat) : Inv (σ.run sched) := by
  induction sched generalizing σ with
  | nil => exact hi
  | cons t ts ih => exact ih (hi.step t)

/-- **a published entry is never overwritten or removed** by any step of any thread -/
theorem C08_slot_stable {σ : Sys} (hi : Inv σ) (t i v : Nat) (hs : σ.shared.slot i = some v) :
    (σ.step t).shared.slot i = some v := by
  rw [Sys.step_shared]
  rcases Eff.slot_apply σ.shared i (effOf (σ.threads t).pc) with h | ⟨w, he, _⟩
  · rw [h, hs]
  · -- a write to `i` would come from its owner, and a published entry has none
    exact absurd ((stepThread_own σ.shared (σ.threads t) (hi.wf t)).2 i w he).1 ((hi.slot_lt i v hs).2 t)

theorem C08_slot_stable_run {σ : Sys} (hi : Inv σ) (sched : List Nat) (i v : Nat) (hs : σ.shared.slot i = some v) :
    (σ.run sched).shared.slot i = some v := by
  induction sched generalizing σ with
  | nil => exact hs
  | cons t ts ih => exact ih (hi.step t) (C08_slot_stable hi t i v hs)

/-- **read-your-writes, forever**: once the last step of a push has been executed, every later lookup of
    its index — by any thread, after any further schedule — finds exactly that value -/
theorem C08_read_your_writes {σ : Sys} (hi : Inv σ) (t i v : Nat) (hpc : (σ.threads t).pc = .pushStore i v)
    (sched : List Nat) :
    ((σ.step t).run sched).shared.slot i = some v := by
  apply C08_slot_stable_run (hi.step t)
  rw [Sys.step_shared, hpc]
  exact (C08_push_publishes σ.shared i v).2.1

/-- a lookup never returns anything for an index that no push was assigned (`index ≥ counter`) -/
theorem C08_get_unassigned {σ : Sys} (hi : Inv σ) (i : Nat) (h : σ.shared.inflight ≤ i) :
    (nextOf σ.shared (.getActive i)).2 = some .none := by
  refine (C08_get_sound σ.shared i).trans ?_
  rw [(C08_fresh_block hi i h).2]

/-- the initial system: empty vector, every thread parked in front of its first atomic operation -/
def Sys.init (cap : Nat) (progs : Nat → List Op) : Sys :=
  { shared := initShared cap,
    threads := fun t => settle ((progs t).length + 1) { pc := .idle, ops := progs t, results := [] } }

theorem Inv.init (cap : Nat) (progs : Nat → List Op) : Inv (Sys.init cap progs) := by
  have hs : ∀ t, Within ((Sys.init cap progs).threads t).pc 0 0 :=
    fun t => settle_within _ _ (.free trivial rfl)
  have none : ∀ t i, ¬ owns ((Sys.init cap progs).threads t).pc i :=
    fun t i h => Nat.not_lt_zero i ((hs t).2 i h).2
  exact ⟨fun t => (hs t).1, fun t i h => absurd h (none t i), fun t _ i h => absurd h (none t i), nofun⟩

/-- **the invariant holds in every state reachable by any number of threads under any schedule** -/
theorem C08_reachable (cap : Nat) (progs : Nat → List Op) (sched : List Nat) :
    Inv ((Sys.init cap progs).run sched) :=
  (Inv.init cap progs).run sched

/-! non-vacuity: a concrete two-thread race for the same bucket and the read-your-writes conclusion -/
example :
    let σ := (Sys.init 0 (fun t => if t = 0 then [.push 7] else if t = 1 then [.push 8, .get 0] else [])).run [0, 1, 1, 0, 1, 0, 1, 1]
    σ.shared.slot 0 = some 7 ∧ σ.shared.slot 1 = some 8 ∧ (σ.threads 1).results = [.idx 1, .val 7] := by decide

end NucleoVerif.Bx
