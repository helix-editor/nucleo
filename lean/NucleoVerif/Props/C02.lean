import NucleoVerif.Lemmas.CalcScore
/-! # C02 — reported indices are a valid witness of the match

"A failed match carries no indices" and "the prior content of the vector is untouched" hold by construction of the
model's result type: the model returns the appended part only; that the implementation appends exactly that and keeps
the prefix is checked on every case of the correspondence run. -/
namespace NucleoVerif
open Gen Spec

theorem validWitnessB_iff (cfg : Cfg) (hrep : Rep) (h n is : List Nat) :
    validWitnessB cfg hrep h n is = true ↔
      is.length = n.length ∧
      (∀ p ∈ is.zip (is.drop 1), p.1 < p.2) ∧
      (∀ p ∈ is.zip n, ∃ c, h[p.1]? = some c ∧ norm cfg hrep c = p.2) := by
  simp only [validWitnessB, Bool.and_eq_true, beq_iff_eq, List.all_eq_true, decide_eq_true_eq]
  constructor
  · rintro ⟨⟨h1, h2⟩, h3⟩
    refine ⟨h1, h2, ?_⟩
    intro p hp
    have := h3 p hp
    cases hh : h[p.1]? with
    | none => simp [hh] at this
    | some c => exact ⟨c, rfl, by simpa [hh] using this⟩
  · rintro ⟨h1, h2, h3⟩
    refine ⟨⟨h1, h2⟩, ?_⟩
    intro p hp
    obtain ⟨c, hc, hn⟩ := h3 p hp
    simp [hc, hn]

/-- the indices reported by every `calculate_score`-based path (greedy, exact, prefix, postfix, substring, and the
    contiguous shortcuts of the fuzzy matcher) are strictly increasing and lie in `[start, end)` -/
theorem C02_calculateScore_indices (cfg : Cfg) (ext : Ext) (hrep : Rep) (h n : List Nat) (start end_ : Nat)
    (hse : start < end_) (he : end_ ≤ h.length) :
    (calculateScore cfg ext hrep h n start end_).2.Pairwise (· < ·) ∧
    ∀ x ∈ (calculateScore cfg ext hrep h n start end_).2, start ≤ x ∧ x < end_ ∧ x < h.length := by
  cases n with
  | nil => exact ⟨List.Pairwise.nil, fun _ hx => absurd hx List.not_mem_nil⟩
  | cons n0 nrest =>
    have hs : start < h.length := Nat.lt_of_lt_of_le hse he
    rw [calculateScore_cons cfg ext hrep h n0 nrest start end_ hs]
    obtain ⟨new, hn, hb, hp⟩ := csRun_idx cfg ext hrep h n0 nrest h[start] (h.drop (start + 1)) start end_ hse
    simp only [hn]
    refine ⟨List.pairwise_cons.mpr ⟨fun a ha => (hb a ha).1, hp⟩, fun x hx => ?_⟩
    rcases List.mem_cons.mp hx with rfl | hx
    · exact ⟨Nat.le_refl _, hse, hs⟩
    · exact ⟨Nat.le_of_succ_le (hb x hx).1, (hb x hx).2, Nat.lt_of_lt_of_le (hb x hx).2 he⟩

/-- a failed match reports nothing: the model's result type carries indices only inside `some` -/
theorem C02_none_no_indices (r : MRes) (h : r = none) : (r.map (·.2)).getD [] = [] := by
  subst h; rfl

open DP

/-- the alignment reported by the recurrence spells the needle, with or without prefix preference -/
theorem C02_optimalDP_spells_needle (cfg : Cfg) (ext : Ext) (hrep : Rep) (h n : List Nat) (start end_ : Nat)
    (sc : Nat) (path : List Nat) (hres : optimalDP cfg ext hrep h n start end_ = some (sc, path)) :
    path.map (chAt cfg hrep h) = n := by
  cases n with
  | nil => cases hres
  | cons n0 ns =>
    obtain ⟨k, c, hk, _, rfl⟩ := optimalDP_eq_some hres
    have hch := windowCols_ch cfg ext hrep h start end_
    let Q : List Nat → List Nat → Prop := fun np l => l.map (chAt cfg hrep h) = np
    exact allRows_paths _ Q
      (fun col hcol np l hl => by show List.map _ _ = _; rw [List.map_append, hl, List.map_singleton, hch col hcol])
      ns [n0] _ (firstRow_paths _ Q (fun col hcol => by show List.map _ _ = _; rw [List.map_singleton, hch col hcol]) n0 _) k c hk

theorem C02_optimalDP_witness (cfg : Cfg) (ext : Ext) (hrep : Rep) (h n : List Nat) (start end_ : Nat)
    (sc : Nat) (path : List Nat) (hres : optimalDP cfg ext hrep h n start end_ = some (sc, path)) :
    validWitnessB cfg hrep h n path = true ∧ ∀ x ∈ path, start ≤ x := by
  obtain ⟨hpw, hin⟩ := DP.optimalDP_sorted cfg ext hrep h n start end_ sc path hres
  exact ⟨validWitness_of_spells cfg hrep h n path hpw (fun x hx => (hin x hx).2)
    (C02_optimalDP_spells_needle cfg ext hrep h n start end_ sc path hres), fun x hx => (hin x hx).1⟩

/-- C02 for the matrix path: the alignment reported by the recurrence is a valid witness.  Neither hypothesis is used:
    `C02_optimalDP_witness` is the same statement without them. -/
theorem C02_optimalDP_valid_witness (cfg : Cfg) (ext : Ext) (hrep : Rep) (h n : List Nat) (start end_ : Nat)
    (hr : hrep = .ascii → ∀ c ∈ h, c < 128) (hpp : cfg.preferPrefix = false) (sc : Nat) (path : List Nat)
    (hres : optimalDP cfg ext hrep h n start end_ = some (sc, path)) :
    validWitnessB cfg hrep h n path = true ∧ ∀ x ∈ path, start ≤ x :=
  C02_optimalDP_witness cfg ext hrep h n start end_ sc path hres

end NucleoVerif
