import NucleoVerif.Lemmas.OptFinish
import NucleoVerif.Props.C03_Bound
import NucleoVerif.Props.C04
/-! # C04 / C02 / C10 (companion file) — the single-row, offset-compressed matrix equals the recurrence

The theorems about the optimal matcher (valid witness C02, score = scheme C03, bounds C04) are about
`Model/Matcher.lean: optimalDP`, the documented two-matrix recurrence on full-width rows whose cells carry their alignment.
`Model/OptImpl.lean: optimalImpl` models what `fuzzy_optimal.rs` does instead.  This file proves that the two agree for
every input and every prior content of the scratch memory, so those theorems are theorems about the code-level model.
The proof is in `Lemmas/Opt*.lean`. -/
namespace NucleoVerif.OptImpl
open NucleoVerif NucleoVerif.Gen NucleoVerif.Gen.Opt NucleoVerif.DP NucleoVerif.Spec

theorem windowCols_bonus_lt (cfg : Cfg) (ext : Ext) (hrep : Rep) (h : List Nat) (start end_ : Nat)
    (hwhite : cfg.white < 256) (hdelim : cfg.delim < 256) : ∀ x ∈ windowCols cfg ext hrep h start end_, x.bonus < 256 := by
  intro x hx
  obtain ⟨j, hj, hget⟩ := List.getElem_of_mem hx
  rw [(windowCols_ok cfg ext hrep h start end_ j x (by rw [← hget]; exact List.getElem?_eq_getElem hj)).2]
  have := specBonus_le cfg.white cfg.delim (pcls cfg.initial (clsOf cfg ext h) (start + j)) (clsOf cfg ext h (start + j))
  unfold bonusCap at this
  unfold bonusAt
  omega

theorem prefix_bonus_init_eq (cfg : Cfg) (start : Nat) : prefix_bonus_init cfg.preferPrefix start = prefixStart cfg start := by
  unfold prefix_bonus_init prefixStart
  split
  · split
    · rfl
    · simp only
      rw [Nat.mod_eq_of_lt (by omega)]
  · rfl

theorem rowN_last (cols : List Col) (n0 : Nat) (ns : List Nat) (pb : Nat) :
    rowN cols (n0 :: ns) pb ns.length = allRows cols ns (firstRow n0 cols pb) := by
  unfold rowN
  rw [List.drop_one, List.tail_cons, List.take_length]
  rfl

/-- **the compressed matrix is the recurrence.**  For every window, every needle of two or more characters that fits the
    window, every configuration and — the scratch slab is never cleared — *every* prior content of the score row and of
    the back-pointer cells: the code-level model of `fuzzy_match_optimal` (one score row reused for all needle rows and
    shifted by the row offsets, `UNMATCHED` sentinels and zero-initialised P-scores instead of "no cell", two-bit
    back-pointer cells laid out row segment after row segment, the traceback of `reconstruct_optimal_path` over segments
    split off the end) returns exactly the score and the alignment of the two-matrix recurrence evaluated on full-width
    rows with alignment-carrying cells, `optimalDP`. -/
theorem optimalImpl_eq_optimalDP (cfg : Cfg) (ext : Ext) (hrep : Rep) (h n : List Nat) (start end_ : Nat)
    (cur0 : List ScoreCell) (cells0 : List MatrixCell)
    (hN : 2 ≤ n.length) (hNW : n.length ≤ (windowCols cfg ext hrep h start end_).length)
    (hwhite : cfg.white < 256) (hdelim : cfg.delim < 256)
    (hcur : cur0.length = (windowCols cfg ext hrep h start end_).length + 1 - n.length)
    (hcells : ((windowCols cfg ext hrep h start end_).length + 1 - n.length) * n.length ≤ cells0.length) :
    optimalImpl cfg (windowCols cfg ext hrep h start end_) n start cur0 cells0 = optimalDP cfg ext hrep h n start end_ := by
  generalize hcols : windowCols cfg ext hrep h start end_ = cols at *
  have hb : ∀ x ∈ cols, x.bonus < 256 := by rw [← hcols]; exact windowCols_bonus_lt cfg ext hrep h start end_ hwhite hdelim
  have hidx : ∀ j x, cols[j]? = some x → x.idx = start + j := by
    rw [← hcols]; exact fun j x hx => (windowCols_ok cfg ext hrep h start end_ j x hx).1
  match n, hN with
  | n0 :: n1 :: ns, hN =>
    unfold optimalDP
    simp only [hcols]
    by_cases hm : (rowOffs (n0 :: n1 :: ns) cols).length = (n0 :: n1 :: ns).length
    · have g : Good ⟨cols, n0 :: n1 :: ns, rowOffs (n0 :: n1 :: ns) cols, prefix_bonus_init cfg.preferPrefix start⟩ :=
        good_of_greedy _ hN hb (rowOffs_greedy cols _ hm)
      rw [optimalImpl_ctx cfg _ g start rfl rfl hidx cur0 cells0 hcur hcells, (setupMatched_iff cols _ 0).mpr hm,
        ← prefix_bonus_init_eq, ← rowN_last]
      rfl
    · have hsm : setupMatched (n0 :: n1 :: ns) cols = false :=
        Bool.eq_false_iff.mpr fun h => hm ((setupMatched_iff cols _ 0).mp h)
      unfold optimalImpl
      simp only [hm, ne_eq, not_false_eq_true, if_true, hsm, Bool.not_false]

/-- **C02 / C03 / C04 for the code-level model**: what the compressed matrix and its traceback return is a valid witness
    (one strictly increasing in-window index per needle character, each normalizing to it), its score is the scheme's
    value of that alignment, and it never exceeds the maximum over all alignments -/
theorem C04_compressed_matrix_correct (cfg : Cfg) (ext : Ext) (hrep : Rep) (h n : List Nat) (start end_ : Nat)
    (cur0 : List ScoreCell) (cells0 : List MatrixCell)
    (hN : 2 ≤ n.length) (hNW : n.length ≤ (windowCols cfg ext hrep h start end_).length)
    (hwhite : cfg.white < 256) (hdelim : cfg.delim < 256)
    (hcur : cur0.length = (windowCols cfg ext hrep h start end_).length + 1 - n.length)
    (hcells : ((windowCols cfg ext hrep h start end_).length + 1 - n.length) * n.length ≤ cells0.length)
    (hr : hrep = .ascii → ∀ c ∈ h, c < 128) (hpp : cfg.preferPrefix = false) (sc : Nat) (path : List Nat)
    (hres : optimalImpl cfg (windowCols cfg ext hrep h start end_) n start cur0 cells0 = some (sc, path)) :
    validWitnessB cfg hrep h n path = true ∧ (∀ x ∈ path, start ≤ x) ∧ sc = alignScore cfg ext h path ∧
      sc ≤ maxAlignScore cfg ext hrep h n := by
  rw [optimalImpl_eq_optimalDP cfg ext hrep h n start end_ cur0 cells0 hN hNW hwhite hdelim hcur hcells] at hres
  have w := C02_optimalDP_valid_witness cfg ext hrep h n start end_ hr hpp sc path hres
  exact ⟨w.1, w.2, C03_optimalDP_eq_alignScore cfg ext hrep h n start end_ hpp sc path hres,
    C04_upper_bound cfg ext hrep h n start end_ hr hpp sc path hres⟩

/-- the hypotheses are met by a non-trivial case and the result does depend on the back-pointers: `"abc"` in
    `"axbxcbxab_c"`, with arbitrary junk in the scratch memory -/
example :
    let cfg : Cfg := { delims := [47, 44, 58, 59, 124], white := 10, delim := 9, initial := .whitespace, normalize := true, ignoreCase := true, preferPrefix := false }
    let hay : List Nat := [97, 120, 98, 120, 99, 98, 120, 97, 98, 95, 99]
    let cols := windowCols cfg (fun _ => default) .ascii hay 0 11
    let junkRow : List ScoreCell := (List.range 9).map fun i => ⟨i * 37 % 500, i % 11, i % 2 == 0⟩
    let junkCells : List MatrixCell := (List.range 27).map fun i => ⟨i % 4⟩
    optimalImpl cfg cols [97, 98, 99] 0 junkRow junkCells = some (64, [0, 2, 10]) ∧
    optimalDP cfg (fun _ => default) .ascii hay [97, 98, 99] 0 11 = some (64, [0, 2, 10]) := by
  decide

end NucleoVerif.OptImpl
