import NucleoVerif.Props.C07_Narrows
/-! # C07 (companion file) — typing an upper-case letter onto a smart-case atom narrows it, too

Under `CaseMatching::Smart` appending an upper-case character turns `ignore_case` off.  It still narrows: the
case-insensitive haystack is the lower-cased case-sensitive one and `n` (stored case-folded) is its own lower case. -/
namespace NucleoVerif
open Gen Spec Sub

/-- **fuzzy atoms, code-point haystacks**: what the case-sensitive matcher finds for `n ++ s` the case-insensitive one
    finds for `n`, when `n` is stored case-folded (`hlow`) -/
theorem C07_smart_case_flip_narrows_fuzzy_unicode (cfg : Cfg) (ext : Ext) (nrep : Rep) (h n s : List Nat)
    (hS : (n ++ s).map (norm { cfg with ignoreCase := false } nrep) = n ++ s)
    (hI : n.map (norm { cfg with ignoreCase := true } nrep) = n) (hlow : n.map toLower = n)
    (hm : (fuzzyMatch { cfg with ignoreCase := false } ext .unicode nrep h (n ++ s)).isSome = true) :
    (fuzzyMatch { cfg with ignoreCase := true } ext .unicode nrep h n).isSome = true :=
  fuzzy_narrows { cfg with ignoreCase := true } { cfg with ignoreCase := false } ext .unicode nrep nrep h n (n ++ s) toLower
    (hk := nofun) (hk' := nofun) (norm_ignoreCase cfg)
    (by rw [List.map_append, hlow]; exact List.sublist_append_left n _) hI hS hm

theorem C07_smart_case_flip_narrows_fuzzy_ascii (cfg : Cfg) (ext : Ext) (h n s : List Nat) (hasc : ∀ x ∈ h, x < 128)
    (hlow : ∀ c ∈ n, ¬ (65 ≤ c ∧ c ≤ 90))
    (hm : (fuzzyMatch { cfg with ignoreCase := false } ext .ascii .ascii h (n ++ s)).isSome = true) :
    (fuzzyMatch { cfg with ignoreCase := true } ext .ascii .ascii h n).isSome = true :=
  fuzzy_narrows { cfg with ignoreCase := true } { cfg with ignoreCase := false } ext .ascii .ascii .ascii h n (n ++ s)
    asciiLower (hk := nofun) (hk' := nofun) (norm_ignoreCase_ascii cfg)
    (by rw [List.map_append, map_asciiLower hlow]; exact List.sublist_append_left n _)
    (map_eq_self _ _ fun c hc => (norm_ignoreCase_ascii cfg c).symm.trans (if_neg (hlow c hc)))
    (map_eq_self _ _ fun c _ => by simp [norm, normAscii]) hm

theorem C07_smart_case_flip_narrows_substring_unicode (cfg : Cfg) (ext : Ext) (nrep : Rep) (h : List Nat) (n0 n1 : Nat) (ns s : List Nat)
    (hb : 8 ≤ maxBonus cfg)
    (hS : ((n0 :: n1 :: ns) ++ s).map (norm { cfg with ignoreCase := false } nrep) = (n0 :: n1 :: ns) ++ s)
    (hI : (n0 :: n1 :: ns).map (norm { cfg with ignoreCase := true } nrep) = n0 :: n1 :: ns) (hlow : (n0 :: n1 :: ns).map toLower = n0 :: n1 :: ns)
    (hm : (substringMatch { cfg with ignoreCase := false } ext .unicode nrep h ((n0 :: n1 :: ns) ++ s)).isSome = true) :
    (substringMatch { cfg with ignoreCase := true } ext .unicode nrep h (n0 :: n1 :: ns)).isSome = true :=
  algo_narrows .substring .substring { cfg with ignoreCase := true } { cfg with ignoreCase := false } ext .unicode nrep nrep h
    (n0 :: n1 :: ns) ((n0 :: n1 :: ns) ++ s) toLower
    (hk := nofun) (hk' := nofun) (hasc := nofun) (fun _ => ⟨hb, hb⟩) (norm_ignoreCase cfg)
    (Or.inl ⟨rfl, by simp, by simp⟩) (Or.inl (List.prefix_append _ s)) (by simp) hlow hI hS hm

theorem C07_smart_case_flip_narrows_prefix_unicode (cfg : Cfg) (ext : Ext) (nrep : Rep) (h : List Nat) (n0 : Nat) (ns s : List Nat)
    (hS : ((n0 :: ns) ++ s).map (norm { cfg with ignoreCase := false } nrep) = (n0 :: ns) ++ s)
    (hI : (n0 :: ns).map (norm { cfg with ignoreCase := true } nrep) = n0 :: ns) (hlow : (n0 :: ns).map toLower = n0 :: ns)
    (hm : (prefixMatch { cfg with ignoreCase := false } ext .unicode nrep h ((n0 :: ns) ++ s)).isSome = true) :
    (prefixMatch { cfg with ignoreCase := true } ext .unicode nrep h (n0 :: ns)).isSome = true :=
  algo_narrows .prefix .prefix { cfg with ignoreCase := true } { cfg with ignoreCase := false } ext .unicode nrep nrep h
    (n0 :: ns) ((n0 :: ns) ++ s) toLower
    (hk := nofun) (hk' := nofun) (hasc := nofun) (hb := nofun) (norm_ignoreCase cfg)
    (Or.inl ⟨rfl, by simp, by simp⟩) (Or.inl (List.prefix_append _ s)) (by simp) hlow hI hS hm

end NucleoVerif
