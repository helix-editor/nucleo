import NucleoVerif.Model.Pattern
import NucleoVerif.Lemmas.List
/-! # C15 — pattern scores compose as a conjunction of atoms with negation

The matcher calls are abstracted as whatever `Atom.innerMatch` returns (their correctness is
C01–C05); these theorems are about the composition only. -/
namespace NucleoVerif

/-- a negated atom matches exactly when its inner match fails, and contributes score 0 and no indices;
    a positive atom is its inner match -/
theorem C15_atom (a : Atom) (cfg : Cfg) (ext : Ext) (hrep : Rep) (h : List Nat) :
    (a.negative = true → a.eval cfg ext hrep h = if (a.innerMatch cfg ext hrep h).isSome then none else some (0, [])) ∧
    (a.negative = false → a.eval cfg ext hrep h = a.innerMatch cfg ext hrep h) := by
  unfold Atom.eval
  constructor
  · intro hn
    rw [hn]
    cases a.innerMatch cfg ext hrep h <;> rfl
  · intro hn
    rw [hn]
    cases a.innerMatch cfg ext hrep h <;> rfl

/-- **the result does not depend on the matcher's previous `ignore_case` / `normalize`**: every atom
    overwrites both before matching (so neither the previous atom nor an earlier pattern leaks in) -/
theorem C15_order_independent (a : Atom) (cfg : Cfg) (ext : Ext) (hrep : Rep) (h : List Nat) (ic nz : Bool) :
    a.eval { cfg with ignoreCase := ic, normalize := nz } ext hrep h = a.eval cfg ext hrep h := by
  unfold Atom.eval Atom.innerMatch
  rfl

theorem patternStep_none (cfg : Cfg) (ext : Ext) (hrep : Rep) (h : List Nat) :
    ∀ l : List Atom, l.foldl (patternStep cfg ext hrep h) none = none := by
  intro l; induction l with
  | nil => rfl
  | cons x xs ihx => simpa [patternStep] using ihx

theorem patternEval_foldl (cfg : Cfg) (ext : Ext) (hrep : Rep) (h : List Nat) :
    ∀ (atoms : List Atom) (s0 : Nat) (i0 : List Nat),
      atoms.foldl (patternStep cfg ext hrep h) (some (s0, i0)) =
      if atoms.all (fun a => (a.eval cfg ext hrep h).isSome) then
        some (s0 + (atoms.map (fun a => ((a.eval cfg ext hrep h).map (·.1)).getD 0)).sum,
              i0 ++ (atoms.map (fun a => ((a.eval cfg ext hrep h).map (·.2)).getD [])).flatten)
      else none := by
  intro atoms
  induction atoms with
  | nil => intro s0 i0; simp
  | cons a as ih =>
    intro s0 i0
    simp only [List.foldl_cons, List.all_cons, List.map_cons, List.sum_cons, List.flatten_cons]
    cases he : a.eval cfg ext hrep h with
    | none =>
      simp only [patternStep, he, Option.isSome_none, Bool.false_and, Bool.false_eq_true, if_false]
      exact patternStep_none cfg ext hrep h as
    | some r =>
      obtain ⟨s', is'⟩ := r
      simp only [patternStep, he, Option.isSome_some, Bool.true_and, Option.map_some, Option.getD_some]
      rw [ih]
      split <;> simp [Nat.add_assoc, List.append_assoc]

/-- **a pattern matches exactly when every atom does** (positive atoms match, negated atoms' inner
    match fails); **its score is the sum of the atoms' scores and its indices are the atoms' indices in
    atom order**; the empty pattern matches everything with score 0 -/
theorem C15_pattern (atoms : List Atom) (cfg : Cfg) (ext : Ext) (hrep : Rep) (h : List Nat) :
    patternEval atoms cfg ext hrep h =
      if atoms.all (fun a => (a.eval cfg ext hrep h).isSome) then
        some ((atoms.map (fun a => ((a.eval cfg ext hrep h).map (·.1)).getD 0)).sum,
              (atoms.map (fun a => ((a.eval cfg ext hrep h).map (·.2)).getD [])).flatten)
      else none := by
  unfold patternEval
  rw [patternEval_foldl]
  simp

theorem patternEval_isSome (atoms : List Atom) (cfg : Cfg) (ext : Ext) (hrep : Rep) (h : List Nat) :
    (patternEval atoms cfg ext hrep h).isSome = atoms.all (fun a => (a.eval cfg ext hrep h).isSome) := by
  rw [C15_pattern]
  split
  · next hh => rw [hh]; rfl
  · next hh => rw [Bool.not_eq_true] at hh; rw [hh]; rfl

theorem C15_empty (cfg : Cfg) (ext : Ext) (hrep : Rep) (h : List Nat) :
    patternEval [] cfg ext hrep h = some (0, []) := rfl

theorem sortDesc_perm (l : List (Nat × Nat)) : (sortDesc l).Perm l :=
  foldr_ins_perm (ins := insertDesc) (fun _ => rfl) (fun _ _ _ => rfl) l

theorem sortDesc_sorted (l : List (Nat × Nat)) : (sortDesc l).Pairwise (fun a b => a.2 ≥ b.2) :=
  foldr_ins_sorted (ins := insertDesc) (fun _ => rfl) (fun _ _ _ => rfl) (fun _ _ h => h)
    (fun _ _ h => Nat.le_of_lt (Nat.not_le.mp h)) (fun _ _ _ h1 h2 => Nat.le_trans h2 h1) l

/-- **`match_list` returns exactly the matching inputs, each once, in non-increasing score order** -/
theorem C15_match_list (scored : List (Nat × Option Nat)) :
    (matchList scored).Perm (scored.filterMap (fun p => p.2.map (fun s => (p.1, s)))) ∧
    (matchList scored).Pairwise (fun a b => a.2 ≥ b.2) :=
  ⟨sortDesc_perm _, sortDesc_sorted _⟩

/-- one insertion is stable: `x` goes in front of the entries that have its score -/
theorem insertDesc_stable (x : Nat × Nat) : ∀ l,
    (insertDesc x l).filter (fun a => a.2 == x.2) = x :: l.filter (fun a => a.2 == x.2) := by
  intro l
  induction l with
  | nil => simp [insertDesc]
  | cons y ys ih =>
    simp only [insertDesc]
    split
    · simp
    · next hlt =>
      have : (y.2 == x.2) = false := beq_false_of_ne (by omega)
      simp [this, ih]

example : matchList [(0, some 5), (1, none), (2, some 7), (3, some 5)] = [(2, 7), (0, 5), (3, 5)] := by decide +kernel

end NucleoVerif
