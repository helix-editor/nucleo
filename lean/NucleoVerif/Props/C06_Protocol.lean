import NucleoVerif.Props.C07_Protocol
/-! # C06 (companion file) — every snapshot, after every event, is a completed run's result

The run contracts carried through the tick protocol (on top of `P07`): the snapshot a reader sees is only ever replaced
by `restart(true)` (emptied) or by `tick_inner` copying the worker after a run that completed without seeing the cancel
flag — never by a cancelled run, never while the matcher waits for the first run on a new stream.  So after every
history the snapshot is a copy of a worker that held a completed result (`SnapOk`), which gives `SnapshotConsistent`. -/
namespace NucleoVerif.Nu

variable (score : Nat → Item → Option Nat) (len : Item → Nat)
variable (S : Nat → Nat → Option Item)
variable (emp : Nat → Bool)

theorem run_seen (Sx : Nat → Option Item) (w : Worker) (st : PStatus) (o : Obs) (bk : BK w) (env : RunEnv Sx w o) :
    ∀ i ∈ processed (Worker.run score len w st false false o).1, o.seen1 i = Sx i := by
  intro i hi
  rcases (run_tracks score len w st false o bk env.order).seen env.obsEnv i hi with h | ⟨it, h1, h2⟩
  · exact env.processed i ((mem_processed w i).mp h).1 ((mem_processed w i).mp h).2
  · rw [h1, h2]

/-- a worker that holds a completed result -/
structure Res (Sx : Nat → Option Item) (w : Worker) : Prop where
  good : Good score Sx w
  /-- a non-empty pattern: sorted by (score desc, true item length asc, index asc) -/
  sorted : emp w.pattern = false → w.hits.Pairwise (mle len Sx)
  /-- the empty pattern: every accounted item, in insertion order -/
  insertion : emp w.pattern = true → w.hits = (processed w).map mk0

theorem run_res (hemp : EmpOk score emp) (w : Worker) (st : PStatus) (o : Obs) (mc : Bool)
    (hstart : StartKeep score S st w) (hpub : Pub (S w.stream) w) (ho : RunObs score S st w o mc)
    (hnc : (Worker.run score len w st false (emp w.pattern) o).1.wasCanceled = false) :
    Res score len emp (S w.stream) (Worker.run score len w st false (emp w.pattern) o).1 := by
  have bk := hstart.bk score S
  have hpat : ∀ pe, (Worker.run score len w st false pe o).1.pattern = w.pattern :=
    fun pe => (Worker.run_runLike score len st false pe o).pattern w
  cases he : emp w.pattern with
  | true =>
    obtain ⟨g, _, _, hh⟩ := run_emp_good score len emp hemp (S w.stream) w st o bk ho.env hpub he
    exact ⟨g, fun h => (by rw [hpat, he] at h; cases h), fun _ => hh⟩
  | false =>
    rw [he] at hnc
    rcases ho.cancel with ⟨_, hc⟩ | renv
    · -- a run that saw the cancel flag is marked cancelled
      rw [(run_control score len w st false false o).2.2.2.1, hc] at hnc
      cases hnc
    · -- completed: sorted by the lengths the run observed, which are the true ones
      obtain ⟨g, hsorted, _, _⟩ := run_completed score len (S w.stream) w st o renv hstart
      refine ⟨g, fun _ => ?_, fun h => (by rw [hpat, he] at h; cases h)⟩
      have hseen := run_seen score len (S w.stream) w st o bk renv
      have hm : ∀ m ∈ (Worker.run score len w st false false o).1.hits, o.seen1 m.idx = S w.stream m.idx :=
        fun m hm => by
          obtain ⟨_, _, _, hi⟩ := idealHits_mem score _ _ _ m (g.right.subset hm)
          exact hseen _ hi
      refine hsorted.imp_of_mem ?_
      intro a b ha hb hab
      unfold mle at hab ⊢
      rw [← matchLess_congr len o.seen1 (S w.stream) b a (hm b hb) (hm a ha)]
      exact hab

theorem Res.congr {Sx : Nat → Option Item} {w w' : Worker} (r : Res score len emp Sx w) (h1 : w'.hits = w.hits) (h2 : w'.inFlight = w.inFlight)
    (h3 : w'.lastSnapshot = w.lastSnapshot) (h4 : w'.pattern = w.pattern) : Res score len emp Sx w' :=
  ⟨r.good.congr score h1 h2 h3 h4, fun he => by rw [h1]; exact r.sorted (by rw [← h4]; exact he),
   fun he => by rw [h1, processed_congr h2 h3]; exact r.insertion (by rw [← h4]; exact he)⟩

theorem join_res (hemp : EmpOk score emp) (p : Pending) (w w' : Worker) (mc : Bool) (hs : StartOk score S p w)
    (hpub : p.cleared = false → Pub (S w.stream) w) (hr : RunsAs score len S emp p w w' mc)
    (hnc : w'.wasCanceled = false) : Res score len emp (S w.stream) w' ∧ w'.stream = w.stream := by
  have hstr := (hr.control score len S emp).2.2
  obtain ⟨w0, o, hw', e1, hst, hp0, ho⟩ := hr.start score len S emp hs hpub
  have r := run_res score len S emp hemp w0 p.status o mc hst hp0 ho (hw' ▸ hnc)
  rw [← hw', e1] at r
  exact ⟨r, hstr⟩

/-- the snapshot is a copy of a worker that held a completed result (the emptied snapshot of `restart(true)` and the
    initial one are copies of an empty worker) -/
def SnapOk (snap : Snapshot) : Prop := ∃ w : Worker, Res score len emp (S w.stream) w ∧ snap = Snapshot.update snap w

/-- `P07`, with the results the snapshot and an idle worker hold -/
structure Q06 (n : Nucleo) : Prop where
  p : P07 score S n
  snap : SnapOk score len S emp n.snapshot
  res : n.pending = none → n.worker.wasCanceled = false → Res score len emp (S n.worker.stream) n.worker

theorem Res.of_empty (Sx : Nat → Option Item) (w : Worker) (h1 : w.hits = []) (h2 : w.lastSnapshot = 0) (h3 : w.inFlight = []) :
    Res score len emp Sx w :=
  ⟨Good.of_empty score Sx w h1 h2 h3, fun _ => by rw [h1]; exact List.Pairwise.nil,
    fun _ => by rw [h1, processed_of_zero h2]; rfl⟩

theorem Q06.new : Q06 score len S emp Nucleo.new :=
  ⟨P07.new score S, ⟨Nucleo.new.worker, Res.of_empty score len emp _ _ rfl rfl rfl, rfl⟩,
    fun _ _ => Res.of_empty score len emp _ _ rfl rfl rfl⟩

theorem Q06.of_eq {n n' : Nucleo} (h : Q06 score len S emp n) (e1 : n'.pending = n.pending) (e2 : n'.worker = n.worker)
    (e3 : n'.state = n.state) (e4 : n'.snapshot = n.snapshot) (e5 : n'.status = n.status) (e6 : n'.pattern = n.pattern)
    (e7 : n'.cur = n.cur) : Q06 score len S emp n' :=
  ⟨h.p.of_eq score S e1 e2 e3 e4 e5 e6 e7, by rw [e4]; exact h.snap, by rw [e1, e2]; exact h.res⟩

theorem Q06.restart {n : Nucleo} (h : Q06 score len S emp n) (c : Bool) : Q06 score len S emp (n.restart c) := by
  refine ⟨h.p.restart score S c, ?_, h.res⟩
  cases c with
  | false => exact h.snap
  | true =>
    exact ⟨{ running := false, hits := [], pattern := n.snapshot.pattern, wasCanceled := false, lastSnapshot := 0,
             inFlight := [], stream := n.nextStream },
      Res.of_empty score len emp _ _ rfl rfl rfl, rfl⟩

theorem snapAfter_ok (m : Nucleo) (hsnap : SnapOk score len S emp m.snapshot)
    (hres : m.worker.wasCanceled = false → Res score len emp (S m.worker.stream) m.worker) :
    SnapOk score len S emp m.snapAfter := by
  unfold Nucleo.snapAfter
  split
  · rename_i hh
    exact ⟨m.worker, hres (by simpa using hh.2.1), rfl⟩
  · exact hsnap

theorem locked_snap (m : Nucleo) (c : Bool) (st : PStatus) (k : Nat) (hsnap : SnapOk score len S emp m.snapshot)
    (hres : m.worker.wasCanceled = false → Res score len emp (S m.worker.stream) m.worker) :
    SnapOk score len S emp (tickInnerLocked m c st k).1.snapshot ∧
    ((tickInnerLocked m c st k).1.pending = none → (tickInnerLocked m c st k).1.worker.wasCanceled = false →
      Res score len emp (S (tickInnerLocked m c st k).1.worker.stream) (tickInnerLocked m c st k).1.worker) := by
  refine ⟨by rw [tickInnerLocked_snapshot]; exact snapAfter_ok score len S emp m hsnap hres, ?_⟩
  by_cases h : c = true ∨ m.worker.itemCount < k
  · rw [tickInnerLocked_spawn _ _ _ _ h]
    exact nofun
  · obtain ⟨hc, hk⟩ := not_or.mp h
    rw [Bool.not_eq_true] at hc
    rw [hc, tickInnerLocked_idle _ _ _ (Nat.le_of_not_lt hk)]
    exact fun _ hwc => (hres hwc).congr score len emp rfl rfl rfl rfl

theorem join_snap (hemp : EmpOk score emp) {n : Nucleo} (h : Q06 score len S emp n) (run : Worker → Worker) (mc : Bool)
    (hr : ∀ p, n.pending = some p → RunsAs score len S emp p n.worker (run n.worker) mc) :
    (n.joinRun run).snapshot = n.snapshot ∧
    ((n.joinRun run).worker.wasCanceled = false → Res score len emp (S (n.joinRun run).worker.stream) (n.joinRun run).worker) := by
  rw [Nucleo.joinRun_eq]
  refine ⟨rfl, ?_⟩
  cases hp : n.pending with
  | none => exact h.res hp
  | some p =>
    intro hwc
    obtain ⟨r, hs⟩ := join_res score len S emp hemp p n.worker (run n.worker) mc (h.p.sta p hp)
      ((pub_iff_of_pending S hp).mp h.p.pub) (hr p hp) hwc
    exact hs ▸ r

theorem Q06.tickPlain (hemp : EmpOk score emp) {n : Nucleo} (h : Q06 score len S emp n) (o : TickOracle)
    (hr : ∀ p, n.pending = some p → RunsAs score len S emp p n.worker (o.run0 n.worker) false)
    (hst : n.status = .unchanged) (hf : n.state = .fresh) : Q06 score len S emp (n.tickPlain o).1 := by
  have key : SnapOk score len S emp (n.tickPlain o).1.snapshot ∧
      ((n.tickPlain o).1.pending = none → (n.tickPlain o).1.worker.wasCanceled = false →
        Res score len emp (S (n.tickPlain o).1.worker.stream) (n.tickPlain o).1.worker) := by
    rcases n.tickPlain_cases o with ⟨_, e⟩ | e <;> rw [e]
    · exact ⟨h.snap, h.res⟩
    · have j := join_snap score len S emp hemp h o.run0 false hr
      exact locked_snap score len S emp _ false .unchanged o.count1 (by rw [j.1]; exact h.snap) j.2
  exact ⟨(tickPlain07 score len S emp hemp n h.p o hr hst hf).1, key.1, key.2⟩

theorem Q06.tickCancelFirst (hemp : EmpOk score emp) {n : Nucleo} (h : Q06 score len S emp n) (o : TickOracle)
    (hr : ∀ p, n.pending = some p → RunsAs score len S emp p n.worker (o.run0 n.worker) true) (hc : n.tickCancels = true) :
    Q06 score len S emp (n.tickCancelFirst o).1 := by
  have j := join_snap score len S emp hemp h o.run0 true hr
  refine ⟨h.p.tickCancelFirst score len S emp hemp o hr hc, ?_, ?_⟩
  · rw [Nucleo.tickCancelFirst_eq]
    exact snapAfter_ok score len S emp (n.joinRun o.run0) (by rw [j.1]; exact h.snap) j.2
  · rw [Nucleo.tickCancelFirst_eq]
    exact nofun

theorem Q06.tick (hemp : EmpOk score emp) {n : Nucleo} (h : Q06 score len S emp n) (o : TickOracle) (env : TickEnv07 score len S emp n o) :
    Q06 score len S emp (n.tick o).1 := by
  have h0 : Q06 score len S emp ({ n with shouldNotify := false } : Nucleo) := h.of_eq score len S emp rfl rfl rfl rfl rfl rfl rfl
  have hr0 := env.run0
  by_cases hc : n.tickCancels = true
  · rw [(n.tick_of_cancels o hc).1]
    rw [hc] at hr0
    obtain ⟨f1, _, _, _, f5⟩ := tickCancelFirst_facts ({ n with shouldNotify := false } : Nucleo) o
    exact (h0.tickCancelFirst score len S emp hemp o hr0 hc).tickPlain score len S emp hemp o.second (env.run1 hc) f5 f1
  · rw [Bool.not_eq_true] at hc
    rw [Nucleo.tick_of_not_cancels n o hc]
    rw [hc] at hr0
    obtain ⟨hst, hf⟩ := n.tickCancels_eq_false_iff.mp hc
    exact h0.tickPlain score len S emp hemp o hr0 hst hf

theorem Q06.step (hemp : EmpOk score emp) {n : Nucleo} (h : Q06 score len S emp n) (e : Ev) (hok : EvOk07 score len S emp n e) :
    Q06 score len S emp (applyEv n e) := by
  rcases applyEv_eq n e with ⟨l, e'⟩ | ⟨c, rfl⟩ | ⟨p, s, rfl⟩ | ⟨o, rfl⟩
  · rw [e']; exact h.of_eq score len S emp rfl rfl rfl rfl rfl rfl rfl
  · exact h.restart score len S emp c
  · exact ⟨h.p.reparse score S p s hok, h.snap, h.res⟩
  · exact h.tick score len S emp hemp o hok

theorem Q06.history (hemp : EmpOk score emp) : ∀ (evs : List Ev) (n : Nucleo), Q06 score len S emp n → okHist07 score len S emp n evs →
    Q06 score len S emp (evs.foldl Nu.applyEv n) :=
  history_induction (fun _ e _ h hok => ⟨h.step score len S emp hemp e hok.1, hok.2⟩)

/-- what a reader of a snapshot can rely on -/
structure SnapshotConsistent (snap : Snapshot) (P : List Nat) : Prop where
  /-- `P` is a duplicate-free set of indices of the snapshot's stream, and the reported item count is its size -/
  nodup : P.Nodup
  count : snap.itemCount = P.length
  /-- the matches are exactly the items of `P` the snapshot's pattern matches, each once, with that pattern's score -/
  exact : snap.hits.Perm (idealHits score (S snap.stream) snap.pattern P)
  /-- every match refers to an initialised item of the snapshot's stream, scored by the snapshot's pattern -/
  item : ∀ m ∈ snap.hits, ∃ it, S snap.stream m.idx = some it ∧ score snap.pattern it = some m.score ∧ m.idx ∈ P
  /-- no item is listed twice -/
  once : (snap.hits.map (·.idx)).Nodup
  /-- a non-empty pattern: descending score, then ascending length of the item, then ascending index -/
  order : emp snap.pattern = false → snap.hits.Pairwise (mle len (S snap.stream))
  /-- the empty pattern: every item of `P` with score 0, in insertion (index) order -/
  insertion : emp snap.pattern = true → (snap.hits.map (·.idx)).Pairwise (· < ·) ∧ ∀ m ∈ snap.hits, m.score = 0

theorem SnapOk.consistent {snap : Snapshot} (h : SnapOk score len S emp snap) : ∃ P, SnapshotConsistent score len S emp snap P := by
  obtain ⟨w, r, e⟩ := h
  have e1 : snap.hits = w.hits := by rw [e]; rfl
  have e2 : snap.pattern = w.pattern := by rw [e]; rfl
  have e3 : snap.stream = w.stream := by rw [e]; rfl
  have e4 : snap.itemCount = w.itemCount := by rw [e]; rfl
  refine ⟨processed w, keepIdx_nodup _ _, ?_, by rw [e1, e2, e3]; exact r.good.right, ?_, ?_,
    fun he => by rw [e1, e3]; exact r.sorted (by rw [← e2]; exact he), fun he => ?_⟩
  · rw [e4]
    unfold Worker.itemCount processed
    rw [keepIdx_length _ _ r.good.bk.below r.good.bk.nodup]
  · intro m hm
    rw [e1] at hm
    rw [e2, e3]
    exact idealHits_mem score _ _ _ m (r.good.right.subset hm)
  · rw [e1]
    have := (r.good.right.map (·.idx)).nodup_iff.mpr (by rw [idealHits_idx]; exact (keepIdx_nodup _ _).filter _)
    exact this
  · have hh := r.insertion (by rw [← e2]; exact he)
    rw [e1, hh]
    refine ⟨?_, fun m hm => ?_⟩
    · rw [List.map_map]
      have : (fun m : Match => m.idx) ∘ mk0 = id := rfl
      rw [this, List.map_id]
      unfold processed keepIdx
      exact List.pairwise_lt_range.filter _
    · obtain ⟨i, _, rfl⟩ := List.mem_map.mp hm
      rfl

/-- C06 at the level of the protocol: after every history of injector(), clone, drop, reparse, restart(true|false) and
    tick events — ticks that complete or time out, runs that complete or are cancelled at an arbitrary point, every lock
    outcome — the snapshot is consistent: its matches are exactly the items its pattern matches (with that pattern's
    scores) among a duplicate-free set of initialised items of its stream whose size is the reported item count, no item
    twice, in sorted order. -/
theorem C06_protocol (hemp : EmpOk score emp) (evs : List Ev) (hok : okHist07 score len S emp Nucleo.new evs) :
    ∃ P, SnapshotConsistent score len S emp (evs.foldl applyEv Nucleo.new).snapshot P :=
  (Q06.history score len S emp hemp evs Nucleo.new (Q06.new score len S emp) hok).snap.consistent score len S emp

/-- the hypotheses can be met by a history that produces a non-empty snapshot: two items (7 and 9) are published on the
    first stream, the first tick's run sees them, completes in time, and the snapshot lists both with the pattern's score,
    the shorter item first -/
example :
    let score : Nat → Item → Option Nat := fun _ _ => some 5
    let emp : Nat → Bool := fun _ => false
    let len : Item → Nat := fun it => it
    let S : Nat → Nat → Option Item := fun _ i => if i = 0 then some 9 else if i = 1 then some 7 else none
    let obs : Obs := { seen0 := fun _ => none, seen1 := S 0, count := 2, inFlightOrder := id, sawCancel := fun _ => false,
                       sortCanceled := false, shouldNotify := false }
    let run : Worker → Worker := fun w => (Worker.run score len w .unchanged true false obs).1
    let o : TickOracle := { count1 := 2, count2 := 2, lock1 := true, lock2 := true, run0 := run, run1 := run }
    EmpOk score emp ∧ okHist07 score len S emp Nucleo.new [.tick o] ∧
      ([Ev.tick o].foldl applyEv Nucleo.new).snapshot.hits = [⟨5, 1⟩, ⟨5, 0⟩] ∧ ([Ev.tick o].foldl applyEv Nucleo.new).snapshot.itemCount = 2 := by
  intro score emp len S obs run o
  refine ⟨fun p it h => by simp [emp] at h, ⟨firstTick_env score len S emp obs o rfl fun w => ?_, trivial⟩, by decide, by decide⟩
  exact ⟨nofun, fun i it h => h, fun i h _ => absurd h (Nat.not_lt_zero i), Nat.zero_le _, by decide, fun _ => ⟨rfl, rfl⟩, rfl,
    fun l => List.Perm.refl l⟩

/-- the same history when pattern 0 is the empty pattern (as it is on a new matcher): the run takes the trivial path and the
    snapshot lists both items with score 0 in insertion order (the longer item 9 first) -/
example :
    let score : Nat → Item → Option Nat := fun p _ => if p = 0 then some 0 else some 5
    let emp : Nat → Bool := fun p => p == 0
    let len : Item → Nat := fun it => it
    let S : Nat → Nat → Option Item := fun _ i => if i = 0 then some 9 else if i = 1 then some 7 else none
    let obs : Obs := { seen0 := fun _ => none, seen1 := S 0, count := 2, inFlightOrder := id, sawCancel := fun _ => false,
                       sortCanceled := false, shouldNotify := false }
    let run : Worker → Worker := fun w => (Worker.run score len w .unchanged true (emp w.pattern) obs).1
    let o : TickOracle := { count1 := 2, count2 := 2, lock1 := true, lock2 := true, run0 := run, run1 := run }
    EmpOk score emp ∧ okHist07 score len S emp Nucleo.new [.tick o] ∧
      ([Ev.tick o].foldl applyEv Nucleo.new).snapshot.hits = [⟨0, 0⟩, ⟨0, 1⟩] ∧ ([Ev.tick o].foldl applyEv Nucleo.new).snapshot.itemCount = 2 := by
  intro score emp len S obs run o
  refine ⟨fun p it h => by simp [emp] at h; simp [score, h], ⟨firstTick_env score len S emp obs o rfl fun w => ?_, trivial⟩,
    by decide, by decide⟩
  exact ⟨nofun, fun i it h => h, fun i h _ => absurd h (Nat.not_lt_zero i), Nat.zero_le _, by decide, fun _ => ⟨rfl, rfl⟩, rfl,
    fun l => List.Perm.refl l⟩

end NucleoVerif.Nu
