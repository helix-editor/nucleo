import NucleoVerif.Model.Utf32
/-! # C17 — string conversion keeps the documented grapheme guarantees

The segmentation into extended grapheme clusters is external (`unicode-segmentation`); the
model receives it.  One fact about it is assumed explicitly where needed (`AsciiSeg`): an
ASCII string without a CR LF pair segments into single characters.  It is exercised by the
correspondence run for every ASCII string of length ≤ 2 (thorough: ≤ 3) and all generated
strings. -/
namespace NucleoVerif

/-- the segmentation fact used by `C17_len` in the ASCII branch -/
def AsciiSeg (s : List Nat) (clusters : List (List Nat)) : Prop :=
  hasAsciiGraphemes s = true → clusters = s.map ([·])

/-- a segmentation is a partition of the string into non-empty pieces -/
def IsSegmentation (s : List Nat) (clusters : List (List Nat)) : Prop :=
  clusters.flatten = s ∧ ∀ c ∈ clusters, c ≠ []

theorem mkUtf32_ascii {s : List Nat} (cl : List (List Nat)) (h : hasAsciiGraphemes s = true) :
    mkUtf32 s cl = ⟨.ascii, s⟩ := if_pos h

theorem mkUtf32_unicode {s : List Nat} (cl : List (List Nat)) (h : ¬ hasAsciiGraphemes s = true) :
    mkUtf32 s cl = ⟨.unicode, cl.map projCluster⟩ := if_neg h

theorem mkUtf32_rep (s : List Nat) (cl : List (List Nat)) :
    (mkUtf32 s cl).rep = .ascii ↔ hasAsciiGraphemes s = true := by
  by_cases h : hasAsciiGraphemes s = true
  · rw [mkUtf32_ascii cl h]
    exact iff_of_true rfl h
  · rw [mkUtf32_unicode cl h]
    exact iff_of_false nofun h

/-- **the ASCII form is chosen exactly when the string is ASCII and contains no CR LF pair** -/
theorem C17_variant (s : List Nat) (cl : List (List Nat)) :
    (mkUtf32 s cl).rep = .ascii ↔ (∀ c ∈ s, c < 128) ∧ hasCRLF s = false := by
  rw [mkUtf32_rep]
  simp only [hasAsciiGraphemes, Bool.and_eq_true, List.all_eq_true, decide_eq_true_eq, Bool.not_eq_eq_eq_not,
    Bool.not_true]

/-- **in the ASCII form the bytes are the original string** -/
theorem C17_ascii_identity (s : List Nat) (cl : List (List Nat)) (h : (mkUtf32 s cl).rep = .ascii) :
    (mkUtf32 s cl).content = s := by
  rw [mkUtf32_ascii cl ((mkUtf32_rep s cl).mp h)]

/-- **otherwise: one character per cluster — its first code point, or LF for CR LF** -/
theorem C17_unicode_content (s : List Nat) (cl : List (List Nat)) (h : (mkUtf32 s cl).rep = .unicode) :
    (mkUtf32 s cl).content = cl.map (fun c => if c = [13, 10] then 10 else c.headD 0) := by
  have hn : ¬ hasAsciiGraphemes s = true := fun ha => by
    rw [(mkUtf32_rep s cl).mpr ha] at h
    cases h
  rw [mkUtf32_unicode cl hn]
  rfl

/-- **the length is the number of grapheme clusters** (ASCII branch: under `AsciiSeg`) -/
theorem C17_len (s : List Nat) (cl : List (List Nat)) (hseg : AsciiSeg s cl) :
    (mkUtf32 s cl).len = cl.length := by
  by_cases h : hasAsciiGraphemes s = true
  · rw [mkUtf32_ascii cl h, hseg h]
    exact (List.length_map _).symm
  · rw [mkUtf32_unicode cl h]
    exact List.length_map _

theorem C17_slice_get (u : U32) (a b i : Nat) (hb : b ≤ u.len) (hi : i < b - a) :
    (u.slice a b).len = b - a ∧ (u.slice a b).get i = u.get (a + i) ∧ (u.slice a b).rep = u.rep := by
  refine ⟨?_, ?_, rfl⟩
  · show ((u.content.drop a).take (b - a)).length = b - a
    rw [List.length_take, List.length_drop]
    exact Nat.min_eq_left (Nat.sub_le_sub_right hb a)
  · show ((u.content.drop a).take (b - a))[i]? = u.content[a + i]?
    rw [List.getElem?_take, if_pos hi, List.getElem?_drop]

theorem C17_slice_full (u : U32) : u.slice 0 u.len = u := by
  cases u; simp [U32.slice, U32.len]

/-- **every slice function, every spelling of a range**: the four functions `Utf32Str::slice`, `Utf32Str::slice_u32`,
    `Utf32String::slice`, `Utf32String::slice_u32` — their bound arithmetic regenerated from the source on every run —
    turn any pair of bounds into exactly the range of the content that `RangeBounds` denotes, keeping the variant -/
theorem C17_slice_ranges :
    Gen.sliceBoundsAll.map (fun sb => (sb.recv, sb.fn)) =
      [("Utf32Str", "slice"), ("Utf32Str", "slice_u32"), ("Utf32String", "slice"), ("Utf32String", "slice_u32")] ∧
    ∀ sb ∈ Gen.sliceBoundsAll, sb.shapeOk = true ∧ ∀ (u : U32) (lo hi : Bnd), u.sliceVia sb lo hi = u.slice lo.startOf (hi.endOf u.len) := by
  refine ⟨rfl, fun sb h => ?_⟩
  have ⟨hok, hstart, hstop⟩ :
      sb.shapeOk = true ∧ (∀ n lo, sb.start n lo = lo.startOf) ∧ ∀ n hi, sb.stop n hi = hi.endOf n := by
    simp only [Gen.sliceBoundsAll, List.mem_cons, List.not_mem_nil, or_false] at h
    rcases h with rfl | rfl | rfl | rfl <;>
      exact ⟨rfl, fun _ lo => by cases lo <;> rfl, fun _ hi => by cases hi <;> rfl⟩
  refine ⟨hok, fun u lo hi => ?_⟩
  unfold U32.sliceVia
  rw [hstart, hstop]

/-- so a slice by any pair of bounds has the length, characters and variant of that window of the content -/
theorem C17_slice_ranges_get (sb : Gen.SliceBounds) (hsb : sb ∈ Gen.sliceBoundsAll) (u : U32) (lo hi : Bnd) (i : Nat)
    (hab : lo.startOf ≤ hi.endOf u.len) (hb : hi.endOf u.len ≤ u.len) (hi' : i < hi.endOf u.len - lo.startOf) :
    (u.sliceVia sb lo hi).len = hi.endOf u.len - lo.startOf ∧ (u.sliceVia sb lo hi).get i = u.get (lo.startOf + i) ∧
      (u.sliceVia sb lo hi).rep = u.rep := by
  rw [(C17_slice_ranges.2 sb hsb).2 u lo hi]
  exact C17_slice_get u _ _ i hb hi'

/-- cutting a string by cluster lengths that add up to its length loses nothing (the `flatten` half of
    `IsSegmentation`) -/
theorem cutClusters_flatten : ∀ (ks : List Nat) (s : List Nat), ks.foldl (· + ·) 0 = s.length →
    (cutClusters s ks).flatten = s := by
  intro ks
  induction ks with
  | nil =>
    intro s h
    rw [List.length_eq_zero_iff.mp h.symm]
    rfl
  | cons k ks ih =>
    intro s h
    have hk : k + ks.foldl (· + ·) 0 = s.length := by
      rw [← h, List.foldl_cons, Nat.zero_add]
      exact (List.foldl_assoc (a₂ := 0)).symm
    show s.take k ++ (cutClusters (s.drop k) ks).flatten = s
    rw [ih (s.drop k) (by rw [List.length_drop, ← hk, Nat.add_sub_cancel_left]), List.take_append_drop]

example : mkUtf32 [97, 13, 10, 98] [[97], [13, 10], [98]] = ⟨.unicode, [97, 10, 98]⟩ := by decide
example : mkUtf32 [97, 98] [[97], [98]] = ⟨.ascii, [97, 98]⟩ := by decide
example : AsciiSeg [97, 98] [[97], [98]] := by intro _; rfl
example : ∀ sb ∈ Gen.sliceBoundsAll, (U32.sliceVia sb ⟨.ascii, [97, 98, 99]⟩ (.excl 0) .unb).content = [98, 99] := by decide

end NucleoVerif
