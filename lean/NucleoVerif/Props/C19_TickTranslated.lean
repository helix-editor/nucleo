import NucleoVerif.Gen.TickPlan
import NucleoVerif.Model.Nucleo
import NucleoVerif.Props.C20_Translated
/-! # C19 (companion file) — the plan of `Nucleo::tick` / `tick_inner`, translated from the source, is the model's

`Gen/TickPlan.lean` is regenerated on every run from `src/lib.rs`: the order of the steps of `tick` and `tick_inner`
(shape-checked with the hooks stripped) and the conditions that decide whether a tick cancels, whether a run is spawned,
whether the finished run's result is copied into the snapshot, whether the notification flag is re-armed, and what a
timed-out lock attempt returns.  The protocol theorems of C06, C07, C12, C13, C19 and C20 are about `Nucleo.tick`. -/
namespace NucleoVerif.Nu

/-- `let canceled = status != Unchanged || self.state.canceled()` -/
theorem C19_translated_tick_cancels (n : Nucleo) :
    n.tickCancels = Gen.TickPlan.tick_cancels n.status.rank n.state.canceled := by
  unfold Nucleo.tickCancels Gen.TickPlan.tick_cancels
  cases n.status <;> simp [PStatus.rank]

theorem C19_translated_snapshot (n : Nucleo) :
    n.snapAfter = if Gen.TickPlan.copies_snapshot n.worker.running n.worker.wasCanceled n.state.canceled then n.snapshot.update n.worker
                  else n.snapshot := by
  unfold Nucleo.snapAfter Gen.TickPlan.copies_snapshot
  simp only [Bool.and_eq_true]

/-- `tick_inner` with the lock held: a run is spawned, and the flag re-armed, exactly when the source says -/
theorem C19_translated_tick_inner (n : Nucleo) (canceled : Bool) (status : PStatus) (count : Nat) :
    tickInnerLocked n canceled status count =
      if Gen.TickPlan.spawns canceled count n.worker.itemCount then
        ({ n with snapshot := n.snapAfter,
                  worker := { n.workerAfter with pattern := n.pattern, stream := if n.state.canceled then n.cur else n.workerAfter.stream },
                  cancelFlag := false,
                  shouldNotify := if Gen.TickPlan.rearms_on_spawn canceled then true else n.shouldNotify,
                  pending := some ⟨status, n.state.canceled⟩ }, ⟨n.worker.running, true⟩)
      else ({ n with snapshot := n.snapAfter, worker := n.workerAfter }, ⟨n.worker.running, false⟩) := by
  unfold tickInnerLocked Gen.TickPlan.spawns Gen.TickPlan.rearms_on_spawn
  cases canceled <;> rfl

/-- the conditions of the plan in one statement, which C06, C07, C12, C13 and C20 each restate under their own name -/
theorem C19_translated_tick_plan (n : Nucleo) (canceled : Bool) (status : PStatus) (count : Nat) :
    n.tickCancels = Gen.TickPlan.tick_cancels n.status.rank n.state.canceled ∧
    (tickInnerLocked n canceled status count).2 = ⟨n.worker.running, Gen.TickPlan.spawns canceled count n.worker.itemCount⟩ ∧
    (tickInnerTimeout n).2 = ⟨Gen.TickPlan.timeout_status.1, Gen.TickPlan.timeout_status.2⟩ ∧
    (n.snapAfter = if Gen.TickPlan.copies_snapshot n.worker.running n.worker.wasCanceled n.state.canceled then n.snapshot.update n.worker else n.snapshot) := by
  refine ⟨C19_translated_tick_cancels n, ?_, rfl, C19_translated_snapshot n⟩
  rw [C19_translated_tick_inner]
  cases Gen.TickPlan.spawns canceled count n.worker.itemCount <;> rfl

theorem C19_translated_timeout (n : Nucleo) :
    tickInnerTimeout n = ({ n with shouldNotify := true }, ⟨Gen.TickPlan.timeout_status.1, Gen.TickPlan.timeout_status.2⟩) := rfl

/-- `tick`: a cancelling tick runs `tick_inner` twice and combines the two results as the source does -/
theorem C19_translated_tick (n : Nucleo) (o : TickOracle) :
    n.tick o =
      if Gen.TickPlan.tick_cancels n.status.rank n.state.canceled then
        let r1 := ({ n with shouldNotify := false } : Nucleo).tickCancelFirst o
        let r2 := r1.1.tickSecond o
        (r2.1, ⟨(Gen.TickPlan.combine r1.2.changed r1.2.running r2.2.changed r2.2.running).1,
                (Gen.TickPlan.combine r1.2.changed r1.2.running r2.2.changed r2.2.running).2⟩)
      else ({ n with shouldNotify := false } : Nucleo).tickPlain o := by
  unfold Nucleo.tick
  simp only
  rw [C19_translated_tick_cancels]
  rfl

/-- the second `tick_inner` of a cancelling tick is called with `Status::Unchanged` -/
theorem C19_translated_second_status : PStatus.unchanged.rank = Gen.TickPlan.second_inner_status := rfl

/-- `restart`: the snapshot is emptied (and re-pointed at the new stream) exactly when the source says -/
theorem C19_translated_restart (n : Nucleo) (clear : Bool) :
    (n.restart clear).cancelFlag = true ∧ (n.restart clear).state.id = Gen.TickPlan.restart_state ∧
    (n.restart clear).cur = n.nextStream ∧
    (n.restart clear).snapshot =
      if Gen.TickPlan.restart_clears_snapshot clear then { n.snapshot with itemCount := 0, hits := [], stream := n.nextStream } else n.snapshot := by
  unfold Nucleo.restart Gen.TickPlan.restart_clears_snapshot
  exact ⟨rfl, rfl, rfl, rfl⟩

end NucleoVerif.Nu
