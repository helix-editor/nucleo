import NucleoVerif.Props.C06_RunTranslated
/-! # C19 (companion file) — the theorems of C19 are about the `Worker::run` the code has

`C06_translated_run_plan_summary`, restated so that a change of the plan of `Worker::run` in `src/worker.rs` is a broken
obligation of C19 as well. -/
namespace NucleoVerif.Nu

theorem C19_translated_run_plan (score : Nat → Item → Option Nat) (len : Item → Nat) (w : Worker) (status : PStatus)
    (cleared : Bool) (o : Obs) :
    Worker.run score len w status cleared true o = (processTrivial (resetMatches (w.begin cleared) o.seen0) o.seen1 o.count, o.shouldNotify) ∧
    (Gen.RunPlan.trivial_path true = true ∧ Gen.RunPlan.trivial_path false = false) ∧
    (∀ s : PStatus, Gen.RunPlan.resets s.rank = decide (s = .rescore)) ∧
    (∀ (s : PStatus) (e : Bool), Gen.RunPlan.rescoring_pass s.rank e = (decide (s ≠ .unchanged) && !e)) :=
  C06_translated_run_plan_summary score len w status cleared o

end NucleoVerif.Nu
