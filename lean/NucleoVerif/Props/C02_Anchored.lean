import NucleoVerif.Props.C05
/-! # C02 — contiguity and anchoring of the indices reported by exact, prefix, postfix matching and the contiguous
shortcuts.  From C05 only the trimming is needed: the code skips what the specification skips unless the haystack is all
whitespace, where nothing matches a needle with a non-whitespace character. -/
namespace NucleoVerif
open Gen Spec

/-- on a window that spells the needle (prefix, postfix, exact and substring matches, and the contiguous shortcut of
    the fuzzy matcher) `calculate_score` reports the contiguous indices `start, start+1, …` -/
theorem calculateScore_contiguous (cfg : Cfg) (ext : Ext) (hrep : Rep) (h : List Nat) (n0 : Nat) (nrest : List Nat) (start end_ : Nat)
    (hwin : ((h.drop start).take (end_ - start)).map (cnorm cfg hrep) = n0 :: nrest) :
    (calculateScore cfg ext hrep h (n0 :: nrest) start end_).2 = List.range' start (n0 :: nrest).length := by
  have hst : start < h.length := Nat.lt_of_not_le fun hle => by
    rw [List.drop_eq_nil_of_le hle, List.take_nil] at hwin
    cases hwin
  have hse : start < end_ := Nat.lt_of_not_le fun hle => by
    rw [Nat.sub_eq_zero_of_le hle, List.take_zero] at hwin
    cases hwin
  rw [calculateScore_cons cfg ext hrep h n0 nrest start end_ hst, csRun]
  -- the loop's part of the window spells the rest of the needle
  rw [List.drop_eq_getElem_cons hst, show end_ - start = (end_ - (start + 1)) + 1 by omega, List.take_succ_cons,
    List.map_cons, List.cons.injEq] at hwin
  cases nrest with
  | nil =>
    rw [List.map_eq_nil_iff.mp hwin.2]
    rfl
  | cons n1 r =>
    rw [csLoop_all_match cfg ext hrep _ _ (start + 1) hwin.2, ← List.length_map (f := cnorm cfg hrep), hwin.2]
    simp [List.range'_succ]

theorem C02_exactImpl_contiguous (cfg : Cfg) (ext : Ext) (hrep nrep : Rep) (h : List Nat) (n0 : Nat) (ns : List Nat) (start end_ : Nat)
    (hk1 : ¬ (hrep = .ascii ∧ nrep = .unicode)) (hn : (n0 :: ns).map (norm cfg nrep) = n0 :: ns)
    (hr : hrep = .ascii → ∀ c ∈ h, c < 128) (sc : Nat) (idx : List Nat)
    (hres : exactImpl cfg ext hrep nrep h (n0 :: ns) start end_ = some (sc, idx)) :
    idx = List.range' start (n0 :: ns).length ∧ (n0 :: ns).length = end_ - start ∧
    (sc, idx) = calculateScore cfg ext hrep h (n0 :: ns) start end_ := by
  obtain ⟨hl, hwin, hcs⟩ := exactImpl_some cfg ext hrep nrep h (n0 :: ns) start end_ hk1 hn _ hres
  exact ⟨(congrArg Prod.snd hcs).trans (calculateScore_contiguous cfg ext hrep h n0 ns start end_ hwin), hl, hcs⟩

/-- a prefix match is anchored right after the skipped leading whitespace and contiguous -/
theorem C02_prefix_anchored (cfg : Cfg) (ext : Ext) (hrep nrep : Rep) (h : List Nat) (n0 : Nat) (ns : List Nat)
    (hk1 : ¬ (hrep = .ascii ∧ nrep = .unicode)) (hn : (n0 :: ns).map (norm cfg nrep) = n0 :: ns)
    (hr : hrep = .ascii → ∀ c ∈ h, c < 128) (sc : Nat) (idx : List Nat)
    (hres : prefixMatch cfg ext hrep nrep h (n0 :: ns) = some (sc, idx)) :
    idx = List.range' (if isWs n0 then 0 else lead hrep h) (n0 :: ns).length := by
  have hex := prefixMatch_some cfg ext hrep nrep h n0 ns _ hres
  rcases leadTrim_cases hrep h (isWs n0) with e | ⟨hall, hw⟩
  · -- the code skips what the specification skips
    rw [e] at hex
    exact (C02_exactImpl_contiguous cfg ext hrep nrep h n0 ns _ _ hk1 hn hr sc idx hex).1
  · -- an all-whitespace haystack under a needle that starts with a non-whitespace character: no window matches
    rw [exactImpl_none_of_all_ws cfg ext hrep nrep h _ hk1 hn hall n0 (List.mem_cons_self ..) hw] at hex
    cases hex

/-- a postfix match ends right in front of the skipped trailing whitespace and is contiguous -/
theorem C02_postfix_anchored (cfg : Cfg) (ext : Ext) (hrep nrep : Rep) (h : List Nat) (n0 : Nat) (ns : List Nat)
    (hk1 : ¬ (hrep = .ascii ∧ nrep = .unicode)) (hn : (n0 :: ns).map (norm cfg nrep) = n0 :: ns)
    (hr : hrep = .ascii → ∀ c ∈ h, c < 128) (sc : Nat) (idx : List Nat)
    (hres : postfixMatch cfg ext hrep nrep h (n0 :: ns) = some (sc, idx)) :
    idx = List.range' (h.length - (if isWs ((n0 :: ns).getLast?.getD n0) then 0 else trail hrep h) - (n0 :: ns).length) (n0 :: ns).length := by
  have hex := postfixMatch_some cfg ext hrep nrep h n0 ns _ hres
  rcases trailTrim_cases hrep h (isWs ((n0 :: ns).getLast?.getD n0)) with e | ⟨hall, hw⟩
  · rw [e] at hex
    rw [Nat.sub_right_comm]
    exact (C02_exactImpl_contiguous cfg ext hrep nrep h n0 ns _ _ hk1 hn hr sc idx hex).1
  · rw [exactImpl_none_of_all_ws cfg ext hrep nrep h _ hk1 hn hall _ (getLast?_getD_mem n0 ns) hw] at hex
    cases hex

end NucleoVerif
