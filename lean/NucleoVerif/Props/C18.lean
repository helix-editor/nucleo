import NucleoVerif.Model.ParSort
import NucleoVerif.Model.Nucleo
/-! # C18 — the cancellable parallel sort returns a sorted permutation -/
namespace NucleoVerif.PS

/-- the slice is always a permutation of its input — for every comparison function (consistent or
    not), every moment the cancel flag is raised (`cancelAt` is an arbitrary oracle for the flag reads),
    every length and arrangement; cancelled or not.  (By construction of the model: its only mutation is
    a swap; that the real code computes the same arrays is the correspondence check.) -/
theorem C18_perm {α : Type} [Inhabited α] (lt : α → α → Bool) (cancelAt : Nat → Bool) (a : Array α) :
    (parQuicksort lt cancelAt a).1.Perm a := by
  unfold parQuicksort
  exact ((parQuicksortM (a0 := a) lt cancelAt a.size).run ⟨a, Array.Perm.refl a⟩).2.property

/-- in particular the length never changes -/
theorem C18_size {α : Type} [Inhabited α] (lt : α → α → Bool) (cancelAt : Nat → Bool) (a : Array α) :
    (parQuicksort lt cancelAt a).1.size = a.size :=
  (C18_perm lt cancelAt a).size_eq

/-- a cancel flag that is already raised when the sort starts: reported, slice untouched -/
theorem C18_cancelled_at_start {α : Type} [Inhabited α] (lt : α → α → Bool) (cancelAt : Nat → Bool) (a : Array α)
    (h : cancelAt 0 = true) : parQuicksort lt cancelAt a = (a, true) := by
  unfold parQuicksort parQuicksortM
  simp only [h, if_true]
  rfl

/-- every heap node that has a child is sifted by the build loop (the loop range is translated from
    `heapsort`'s source): a node whose first child lies inside the slice is inside the range the build
    loop visits.  Without this the "heap" handed to the pop loop need not be a heap. -/
theorem C18_heap_build_covers_parents (len node : Nat) (h : Gen.PS_heapChild node < len) :
    Gen.PS_heapBuildLo len ≤ node ∧ node < Gen.PS_heapBuildHi len := by
  unfold Gen.PS_heapChild at h
  unfold Gen.PS_heapBuildLo Gen.PS_heapBuildHi
  omega

/-- the children of a node are `2·node + 1` and the position after it, and are below it in the heap order
    (strictly larger index): sifting moves strictly down, so it terminates within `len` steps -/
theorem C18_heap_child_below (node : Nat) : node < Gen.PS_heapChild node := by
  unfold Gen.PS_heapChild; omega

/-- the pop loop places every position but the first: it visits `len - 1, …, 1` -/
theorem C18_heap_pop_covers (len : Nat) : Gen.PS_heapPopLo len = 1 ∧ Gen.PS_heapPopHi len = len := by
  unfold Gen.PS_heapPopLo Gen.PS_heapPopHi; exact ⟨rfl, rfl⟩

section
variable {α : Type} {a0 : Array α}

/-- "this computation does not report cancellation" -/
def NC (m : M a0 (Bool × Nat)) : Prop := ∀ s, (m s).1.1 = false

theorem NC_pure_false (n : Nat) : NC (a0 := a0) (pure (false, n)) := fun _ => rfl

theorem NC_bind_any {β : Type} (m : M a0 β) (f : β → M a0 (Bool × Nat)) (h : ∀ x, NC (f x)) : NC (m >>= f) := by
  intro s
  show ((f (m s).1) (m s).2).1.1 = false
  exact h _ _

theorem NC_bind_rec (m : M a0 (Bool × Nat)) (f : Bool × Nat → M a0 (Bool × Nat)) (hm : NC m)
    (h : ∀ x, x.1 = false → NC (f x)) : NC (m >>= f) := by
  intro s
  show ((f (m s).1) (m s).2).1.1 = false
  exact h _ (hm s) _

theorem NC_ite (c : Prop) [Decidable c] (a b : M a0 (Bool × Nat)) (ha : NC a) (hb : NC b) : NC (if c then a else b) := by
  split <;> assumption

variable [Inhabited α] (lt : α → α → Bool)

theorem recurseSplit_NC
    (rec : (lo hi : Nat) → Option α → (limit : Nat) → (wasBalanced wasPartitioned : Bool) → (nread : Nat) →
      M a0 (Bool × Nat))
    (hrec : ∀ lo hi pred limit wb wp nread, NC (rec lo hi pred limit wb wp nread))
    (lo hi : Nat) (pred : Option α) (limit : Nat) (wb wp : Bool) (nread pivot : Nat) :
    NC (recurseSplit lt (fun _ => false) rec lo hi pred limit wb wp nread pivot) := by
  unfold recurseSplit
  simp only [Bool.false_eq_true, if_false]
  -- reading the predecessor pivot (if there is one) comes first; the rest is the same in both cases
  cases pred
  case' some p =>
    apply NC_bind_any
    intro v
  all_goals
    apply NC_bind_any
    intro doEqual
    apply NC_ite
    · -- `partitionEqual`, then the loop goes on
      apply NC_bind_any
      intro mid
      exact hrec _ _ _ _ _ _ _
    · apply NC_bind_any
      intro x
      apply NC_bind_any
      intro pv
      apply NC_ite
      · -- sequential: the flag returned is that of the second call
        apply NC_ite
        · apply NC_bind_rec _ _ (hrec _ _ _ _ _ _ _)
          intro x1 _
          exact hrec _ _ _ _ _ _ _
        · apply NC_bind_rec _ _ (hrec _ _ _ _ _ _ _)
          intro x1 _
          exact hrec _ _ _ _ _ _ _
      · -- `join`: the flags of both calls are or-ed
        apply NC_bind_rec _ _ (hrec _ _ _ _ _ _ _)
        intro x1 h1
        apply NC_bind_rec _ _ (hrec _ _ _ _ _ _ _)
        intro x2 h2
        intro s
        show (x1.1 || x2.1) = false
        rw [h1, h2]
        rfl

theorem recursePivot_NC
    (rec : (lo hi : Nat) → Option α → (limit : Nat) → (wasBalanced wasPartitioned : Bool) → (nread : Nat) →
      M a0 (Bool × Nat))
    (hrec : ∀ lo hi pred limit wb wp nread, NC (rec lo hi pred limit wb wp nread))
    (lo hi : Nat) (pred : Option α) (limit : Nat) (wb wp : Bool) (nread : Nat) :
    NC (recursePivot lt (fun _ => false) rec lo hi pred limit wb wp nread) := by
  unfold recursePivot
  apply NC_bind_any
  intro x
  simp only
  apply NC_ite
  · apply NC_bind_any
    intro b
    apply NC_ite
    · exact NC_pure_false _
    · exact recurseSplit_NC lt rec hrec _ _ _ _ _ _ _ _
  · exact recurseSplit_NC lt rec hrec _ _ _ _ _ _ _ _

theorem recurse_NC : ∀ (fuel lo hi : Nat) (pred : Option α) (limit : Nat) (wb wp : Bool) (nread : Nat),
    NC (a0 := a0) (recurseLoop lt (fun _ => false) fuel lo hi pred limit wb wp nread) := by
  intro fuel
  induction fuel with
  | zero =>
    intro lo hi pred limit wb wp nread
    unfold recurseLoop
    exact NC_pure_false _
  | succ k ih =>
    intro lo hi pred limit wb wp nread
    unfold recurseLoop
    apply NC_ite
    · apply NC_bind_any
      intro _
      exact NC_pure_false _
    · apply NC_ite
      · apply NC_bind_any
        intro _
        exact NC_pure_false _
      · apply NC_ite
        · apply NC_bind_any
          intro _
          exact recursePivot_NC lt _ ih _ _ _ _ _ _ _
        · exact recursePivot_NC lt _ ih _ _ _ _ _ _ _

/-- a sort whose cancel flag is never raised never reports "cancelled" — every comparison function, every input -/
theorem C18_not_cancelled (lt : α → α → Bool) (a : Array α) : (parQuicksort lt (fun _ => false) a).2 = false := by
  unfold parQuicksort parQuicksortM
  simp only [Bool.false_eq_true, if_false]
  exact recurse_NC (a0 := a) lt (a.size + 2) 0 a.size none (bitLen a.size) true true 1 ⟨a, Array.Perm.refl a⟩

end

end NucleoVerif.PS

namespace NucleoVerif.Nu
open NucleoVerif.PS

/-- the worker's comparison decides every pair of distinct matches -/
theorem matchLess_total (len : Item → Nat) (items : Nat → Option Item) (a b : Match) (h : a ≠ b) :
    matchLess len items a b = true ∨ matchLess len items b a = true := by
  unfold matchLess
  by_cases hs : a.score = b.score
  · have hs' : b.score = a.score := hs.symm
    have e1 : ¬ (a.score ≠ b.score) := fun x => x hs
    have e2 : ¬ (b.score ≠ a.score) := fun x => x hs'
    rw [if_neg e1, if_neg e2]
    by_cases ha : a.idx = PLACE
    · by_cases hb : b.idx = PLACE
      · exfalso; apply h; cases a; cases b; simp_all
      · right; rw [if_neg hb, if_pos ha]
    · by_cases hb : b.idx = PLACE
      · left; rw [if_neg ha, if_pos hb]
      · rw [if_neg ha, if_neg hb, if_neg hb, if_neg ha]
        by_cases hl : ((items a.idx).map len |>.getD 0) = ((items b.idx).map len |>.getD 0)
        · have hl' := hl.symm
          rw [if_pos hl, if_pos hl']
          simp only [decide_eq_true_eq]
          have : a.idx ≠ b.idx := by
            intro e; apply h; cases a; cases b; simp_all
          omega
        · have hl' : ¬ (((items b.idx).map len |>.getD 0) = ((items a.idx).map len |>.getD 0)) := fun e => hl e.symm
          rw [if_neg hl, if_neg hl']
          simp only [decide_eq_true_eq]
          omega
  · have hs' : ¬ (b.score = a.score) := fun e => hs e.symm
    simp only [ne_eq, hs, hs', not_false_eq_true, if_true, decide_eq_true_eq]
    omega

/-- because the worker's comparison is a total order, the sorted match list is unique: whatever
    the number of worker threads (i.e. however the work is split and in whatever order the sub-slices are
    sorted), two sorted permutations of the same matches are the same list -/
theorem C18_thread_independent (len : Item → Nat) (items : Nat → Option Item) (l₁ l₂ : List Match)
    (h₁ : l₁.Pairwise (fun a b => matchLess len items b a = false))
    (h₂ : l₂.Pairwise (fun a b => matchLess len items b a = false)) (hp : l₁.Perm l₂) : l₁ = l₂ :=
  hp.eq_of_pairwise (fun a b _ _ hba hab => Classical.byContradiction fun e =>
    (matchLess_total len items a b e).elim (fun h => by rw [h] at hab; cases hab) (fun h => by rw [h] at hba; cases hba)) h₁ h₂

end NucleoVerif.Nu
