import NucleoVerif.Model.Matcher
/-! # C10 — the matcher is total, memory-safe and independent of its call history

Theorem, this file: the five views `MatrixSlab::alloc` hands out lie inside the slab, are pairwise disjoint and
aligned, for every window length, needle length and character size (the hypotheses `cs = 1 ∨ cs = 4`, `n ≤ h` of the
`C10_*` statements follow the property's wording; `views_disjoint_aligned` needs neither); the element counts
(`Gen.layoutCount_*`, `Gen.viewCount_*`) are extracted from `matrix.rs` on every run.  `Props/C03_Bound.lean`: no `u16`
saturation in `calculate_score` for needles of up to 2519 characters.  Correspondence (DESIGN.md): no panic / overflow
and results independent of the matcher's history and the slab's previous content, on every generated case. -/
namespace NucleoVerif
open Gen

/-- the byte length of view `i` as `fieds_from_ptr` builds it -/
def viewBytes (cs h n : Nat) : List Nat :=
  [viewCount_haystack h n * elemSize_haystack cs, viewCount_bonus h n * elemSize_bonus cs,
   viewCount_rows h n * elemSize_rows cs, viewCount_score h n * elemSize_score cs,
   viewCount_matrix h n * elemSize_matrix cs]

/-- alignment of the element type of each view -/
def viewAlign (cs : Nat) : List Nat :=
  [elemSize_haystack cs, elemSize_bonus cs, elemSize_rows cs, elemSize_score cs, elemSize_matrix cs]

/-- consecutive views do not overlap and the last one ends inside `total` -/
def chainOk : List Nat → List Nat → Nat → Prop
  | [o], [l], total => o + l ≤ total
  | o :: o' :: os, l :: ls, total => o + l ≤ o' ∧ chainOk (o' :: os) ls total
  | _, _, _ => False

def alignedOk : List Nat → List Nat → Prop
  | [], [] => True
  | o :: os, a :: as => o % a = 0 ∧ alignedOk os as
  | _, _ => False

theorem le_roundUp (x : Nat) {a : Nat} (ha : 0 < a) : x ≤ roundUp x a := by
  unfold roundUp
  have := Nat.div_add_mod' (x + a - 1) a
  have := Nat.mod_lt (x + a - 1) ha
  omega

theorem roundUp_mod (x a : Nat) : roundUp x a % a = 0 := Nat.mul_mod_left _ _

theorem view_le_next (o c s : Nat) {a : Nat} (ha : 0 < a) : o + c * s ≤ roundUp (o + s * c) a :=
  Nat.mul_comm c s ▸ le_roundUp _ ha

theorem chainOk_mono {os ls : List Nat} {t t' : Nat} (h : chainOk os ls t) (ht : t ≤ t') : chainOk os ls t' := by
  fun_induction chainOk os ls t with
  | case1 o l t => exact Nat.le_trans h ht
  | case2 o o' os l ls t ih => exact ⟨h.1, ih h.2 ht⟩
  | case3 => exact h.elim

/-- each offset is the previous end rounded up to a positive element size; each view has the element count of its
    part of the layout -/
theorem views_disjoint_aligned (cs h n : Nat) :
    chainOk (layoutOffsets cs h n).1 (viewBytes cs h n) (layoutSize cs h n) ∧
    alignedOk (layoutOffsets cs h n).1 (viewAlign cs) := by
  simp only [layoutOffsets, layoutSize, viewBytes, viewAlign, chainOk, alignedOk,
    List.foldl_cons, List.foldl_nil, List.nil_append, List.cons_append, and_true]
  exact ⟨⟨view_le_next _ _ _ (Nat.zero_lt_succ _), view_le_next _ _ _ (Nat.zero_lt_succ _),
      view_le_next _ _ _ (Nat.zero_lt_succ _), view_le_next _ _ _ (Nat.zero_lt_succ _),
      Nat.le_of_eq (congrArg _ (Nat.mul_comm _ _))⟩,
    roundUp_mod _ _, roundUp_mod _ _, roundUp_mod _ _, roundUp_mod _ _, roundUp_mod _ _⟩

/-- **Every view lies in its own segment of the layout, segments are disjoint, offsets aligned** —
    for all sizes, whether or not the slab is large enough. -/
theorem C10_views_disjoint_aligned (cs h n : Nat) (hcs : cs = 1 ∨ cs = 4) (hn : n ≤ h) :
    chainOk (layoutOffsets cs h n).1 (viewBytes cs h n) (layoutSize cs h n) ∧
    alignedOk (layoutOffsets cs h n).1 (viewAlign cs) :=
  views_disjoint_aligned cs h n

/-- **Whenever `alloc` hands out a matrix, all five views are inside the slab allocation.** -/
theorem C10_views_in_slab (cs h n : Nat) (hcs : cs = 1 ∨ cs = 4) (hn : n ≤ h) (hfit : slabFits cs h n = true) :
    chainOk (layoutOffsets cs h n).1 (viewBytes cs h n) slabSize := by
  refine chainOk_mono (views_disjoint_aligned cs h n).1 ?_
  simp only [slabFits, Bool.and_eq_true, Bool.not_eq_true', decide_eq_false_iff_not] at hfit
  omega

/-- the limits that make the matrix path's `u16` indices safe: a window handed to the matrix has at
    most 65535 columns and at most `MAX_MATRIX_SIZE` cells -/
theorem C10_matrix_limits (cs w n : Nat) (hfit : slabFits cs w n = true) :
    w ≤ 65535 ∧ n ≤ MAX_NEEDLE_LEN ∧ w * n ≤ MAX_MATRIX_SIZE := by
  simp only [slabFits, Bool.and_eq_true, Bool.not_eq_true', Bool.or_eq_false_iff, decide_eq_false_iff_not] at hfit
  omega

/-- **History independence at the model level**: the model is a function of (configuration,
    arguments) only — there is no matcher state to carry.  (That the *implementation* equals this
    function for every call history, including a poisoned slab, is the correspondence check.) -/
theorem C10_model_is_function (a : Algo) (cfg : Cfg) (ext : Ext) (hr nr : Rep) (h n : List Nat) :
    ∀ r₁ r₂, r₁ = a.run cfg ext hr nr h n → r₂ = a.run cfg ext hr nr h n → r₁ = r₂ := by
  intro r₁ r₂ h₁ h₂; rw [h₁, h₂]

/-! non-vacuity: the matrix path is really taken for sizes at the limits -/
example : slabFits 1 2000 50 = true := by decide
example : slabFits 4 2000 50 = true := by decide
example : slabFits 1 2049 50 = false := by decide
example : slabFits 4 10000 10 = false := by decide   -- cells fit, layout does not

end NucleoVerif
