import NucleoVerif.Gen.Parse
import NucleoVerif.Props.C07_Translated
import NucleoVerif.Props.C07_UpdateSound
/-! # C07 / C14 (companion file) — `Atom::parse`, translated from the source, is the model's `parseAtom`

`Gen/Parse.lean` is regenerated on every run from `matcher/src/pattern.rs`: the three matches on `atom.as_bytes()` (slice
patterns become list patterns; `[.., x, y]` is read from the end), the kind of a negated fuzzy atom, the arguments of the
`new_inner` call, and the closure `pattern_atoms` hands to `str::split`.  They are the model's functions. -/
namespace NucleoVerif

theorem C07_translated_invert (a : List Nat) : Gen.Parse.invert a = stripNeg a := by
  unfold Gen.Parse.invert
  split
  · rfl
  · rfl
  · next h1 h2 => exact (stripNeg_plain a h1 h2).symm

theorem C07_translated_kind (a : List Nat) : Gen.Parse.kind a = ((stripKind a).1.id, (stripKind a).2) := by
  unfold Gen.Parse.kind
  split
  · rfl
  · rfl
  · rfl
  · rfl
  · next h1 h2 h3 h4 => rw [stripKind_plain a h1 h2 h3 h4]; rfl

theorem C07_translated_dollar (k : AtomKind) (a : List Nat) :
    Gen.Parse.dollar k.id a = ((stripDollar k a).1.id, (stripDollar k a).2.1, (stripDollar k a).2.2) := by
  rw [stripDollar_eq]
  unfold Gen.Parse.dollar
  split
  · next t h =>
    rw [h, eq_of_reverse_eq_cons_cons h]
    exact congrArg (fun x => (k.id, true, x)) (dropLast2_append _ _ _)
  · next t hesc h =>
    have ht : t.head? ≠ some 92 := fun e => by
      obtain ⟨u, rfl⟩ := List.head?_eq_some_iff.mp e
      exact hesc u rfl
    have hid : (anchored k).id = if k.id == 0 then 3 else 4 := by cases k <;> rfl
    rw [h, dollarRev_dollar k t ht, hid, eq_of_reverse_eq_cons h]
    exact congrArg (fun x => (_, false, x)) (dropLast1_append _ _)
  · next hesc hdol =>
    have ht : a.reverse.head? ≠ some 36 := fun e => by
      obtain ⟨u, hu⟩ := List.head?_eq_some_iff.mp e
      exact hdol u hu
    rw [dollarRev_plain k _ ht, List.reverse_reverse]

theorem C07_translated_final_kind (inv : Bool) (k : AtomKind) :
    Gen.Parse.final_kind inv k.id = (if inv ∧ k = .fuzzy then AtomKind.substring else k).id := by
  cases inv <;> cases k <;> rfl

/-- **`Atom::parse`, translated from the source, is `parseAtom`**: the three matches on `atom.as_bytes()` are `stripNeg`,
    `stripKind` and `stripDollar`, the kind handed to `new_inner` is the model's, whitespace escapes are on, and the result's
    `negative` is the `!` flag -/
theorem C07_translated_parse (seg : Seg) (raw : List Nat) (case : CaseMatching) (norm : Normalization) :
    let i := Gen.Parse.invert raw
    let k := stripKind i.2
    let d := stripDollar k.1 k.2
    Gen.Parse.kind i.2 = (k.1.id, k.2) ∧ Gen.Parse.dollar k.1.id k.2 = (d.1.id, d.2.1, d.2.2) ∧
    parseAtom seg raw case norm =
      { newInner seg d.2.2 case norm (if i.1 ∧ d.1 = .fuzzy then AtomKind.substring else d.1) Gen.Parse.escape_whitespace d.2.1 with negative := i.1 } ∧
    Gen.Parse.final_kind i.1 d.1.id = (if i.1 ∧ d.1 = .fuzzy then AtomKind.substring else d.1).id := by
  simp only
  rw [C07_translated_invert]
  exact ⟨C07_translated_kind _, C07_translated_dollar _ _, rfl, C07_translated_final_kind _ _⟩

/-- **the closure of `pattern_atoms`, translated from the source, is the step of the model's splitter** -/
theorem C07_translated_split (c : Nat) (cs : List Nat) (saw : Bool) (cur : List Nat) :
    patternAtomsGo (c :: cs) saw cur =
      if (Gen.Parse.split_step saw (isWs c) c).1 then cur.reverse :: patternAtomsGo cs (Gen.Parse.split_step saw (isWs c) c).2 []
      else patternAtomsGo cs (Gen.Parse.split_step saw (isWs c) c).2 (c :: cur) := by
  unfold Gen.Parse.split_step
  rw [patternAtomsGo]
  by_cases h : (isWs c && !saw) = true
  · rw [if_pos h, if_pos (by simpa using h)]; rfl
  · rw [if_neg h, if_neg (by simpa using h)]
    by_cases hc : c = 92
    · subst hc; rfl
    · have e : (c == 92) = false := by simpa using hc
      rw [e, decide_eq_false hc]; rfl

end NucleoVerif
