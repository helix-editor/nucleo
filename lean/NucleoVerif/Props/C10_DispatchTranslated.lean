import NucleoVerif.Props.C05_DispatchTranslated
/-! # C10 (companion file) — the theorems of C10 are about the dispatch the code has

The `*_impl` entry points of `matcher/src/lib.rs`, translated on every run, are the model's (`C01_DispatchTranslated`,
`C05_DispatchTranslated`); restated so that a change of a guard, a branch or a window argument breaks C10 as well. -/
namespace NucleoVerif

theorem C10_translated_dispatch (cfg : Cfg) (ext : Ext) (hrep nrep : Rep) (h n : List Nat) :
    (Algo.fuzzy.run cfg ext hrep nrep h n =
      Gen.Dispatch.fuzzy_matcher_impl (modelCalls cfg ext hrep nrep h n) h.length n.length (hrep == .ascii) (nrep == .ascii)) ∧
    (Algo.greedy.run cfg ext hrep nrep h n =
      Gen.Dispatch.fuzzy_match_greedy_impl (modelCalls cfg ext hrep nrep h n) h.length n.length (hrep == .ascii) (nrep == .ascii)) ∧
    (Algo.substring.run cfg ext hrep nrep h n =
      Gen.Dispatch.substring_match_impl (modelCalls cfg ext hrep nrep h n) h.length n.length (hrep == .ascii) (nrep == .ascii)) :=
  ⟨C01_translated_fuzzy_dispatch .., C01_translated_greedy_dispatch .., C05_translated_substring_dispatch ..⟩

end NucleoVerif
