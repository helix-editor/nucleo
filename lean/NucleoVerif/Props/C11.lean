import NucleoVerif.Model.Drop
import NucleoVerif.Props.C08
/-! # C11 — every injected item is dropped exactly once, and only after it is unreachable

The loop shape of `Drop for Vec` / `Bucket::dealloc` is extracted from the source on every run (`Gen.dropStopsAtNull`,
plus shape checks in the translator).  Who holds a stream alive is the reference count of C20; the correspondence run
tracks a drop counter per item and a counting global allocator. -/
namespace NucleoVerif.Bx
open Gen

/-- `Drop for Vec` `continue`s at a null bucket pointer (finding F12: a `break` there skips later allocated buckets) -/
theorem C11_drop_continues : dropStopsAtNull = false := by decide

/-- **every allocated bucket is visited by `Drop for Vec`**, wherever it sits (a later bucket can be
    allocated while an earlier one is not: finding F12) -/
theorem C11_drop_visits_all (bucket : Nat → Bool) (b : Nat) (hb : b < BUCKETS) (h : bucket b = true) :
    b ∈ dropVisited bucket := by
  unfold dropVisited
  rw [C11_drop_continues]
  simp [List.mem_filter, hb, h]

/-- the witness of F12 in the model: buckets 0 and 2 allocated, bucket 1 not.  A loop that stops at the
    first null pointer reaches only bucket 0. -/
example : ((List.range BUCKETS).takeWhile (fun b => decide (b = 0 ∨ b = 2))) = [0] := by decide
example : dropVisited (fun b => decide (b = 0 ∨ b = 2)) = [0, 2] := by decide

/-- entries are only ever marked active inside an allocated bucket -/
def SlotBucket (s : Shared) : Prop :=
  ∀ i v, s.slot i = some v → s.bucket (bucketOf i) = true

theorem SlotBucket.init (cap : Nat) : SlotBucket (initShared cap) := by
  intro i v h; simp [initShared] at h

theorem SlotBucket.fa {s : Shared} (h : SlotBucket s) (k : Nat) : SlotBucket ((Eff.fa k).apply s) := h

theorem SlotBucket.pub {s : Shared} (h : SlotBucket s) (b : Nat) : SlotBucket ((Eff.pub b).apply s) :=
  fun i v hs => Eff.bucket_mono (h i v hs) (.pub b)

theorem SlotBucket.wr {s : Shared} (h : SlotBucket s) (i v : Nat) (hb : s.bucket (bucketOf i) = true) :
    SlotBucket ((Eff.wr i v).apply s) := by
  intro j w hs
  by_cases e : j = i
  · subst e
    exact hb
  · exact h j w ((upd_of_ne s.slot (some v) e).symm.trans hs)

theorem SlotBucket.writeItem {s : Shared} (h : SlotBucket s) (i v : Nat) : SlotBucket (writeItem s i v) := by
  unfold Bx.writeItem
  exact (h.pub _).wr i v (Eff.pub_bucket ..)

theorem SlotBucket.ite {c : Prop} [Decidable c] {a b : Shared} (ha : SlotBucket a) (hb : SlotBucket b) :
    SlotBucket (if c then a else b) := by
  split
  · exact ha
  · exact hb

theorem SlotBucket.ite_fst {c : Prop} [Decidable c] {a b : Shared × List Nat} (ha : SlotBucket a.1)
    (hb : SlotBucket b.1) :
    SlotBucket (if c then a else b).1 := by
  split
  · exact ha
  · exact hb

theorem SlotBucket.eagerPush {s : Shared} (h : SlotBucket s) (i : Nat) : SlotBucket (eagerPush s i) :=
  .ite (h.pub _) h

theorem SlotBucket.eagerExtend {s : Shared} (h : SlotBucket s) (a b : Nat) : SlotBucket (eagerExtend s a b) :=
  .ite (h.pub _) h

theorem SlotBucket.writeBatch (start : Nat) : ∀ (l : List (Nat × Nat)) (s : Shared), SlotBucket s →
    SlotBucket (l.foldl (fun (acc : Shared) (p : Nat × Nat) => Bx.writeItem acc (start + p.2) p.1) s) := by
  intro l
  induction l with
  | nil => intro s h; exact h
  | cons p ps ih => intro s h; exact ih _ (h.writeItem _ _)

theorem SlotBucket.runDOp {s : Shared} (h : SlotBucket s) : ∀ op : DOp, SlotBucket (runDOp s op).1
  | .push v panics =>
    have h3 := ((h.fa 1).eagerPush s.inflight).pub (bucketOf s.inflight)
    .ite_fst h3 (h3.wr _ _ (Eff.pub_bucket ..))
  | .extend rep vals panicAt =>
    have h3 := SlotBucket.writeBatch s.inflight ((vals.take (stopAt rep vals panicAt)).zipIdx) _
      ((h.fa rep).eagerExtend s.inflight rep)
    .ite_fst h (.ite (h3.pub _) h3)

/-- `SlotBucket` holds after every sequential history of pushes and batches (honest or lying, with panicking
    callbacks) -/
theorem SlotBucket.runDOps (cap : Nat) (ops : List DOp) : SlotBucket (runDOps cap ops).1 := by
  unfold Bx.runDOps
  have : ∀ (acc : Shared × List Nat), SlotBucket acc.1 →
      SlotBucket (ops.foldl
        (fun (acc : Shared × List Nat) op => ((Bx.runDOp acc.1 op).1, acc.2 ++ (Bx.runDOp acc.1 op).2)) acc).1 := by
    induction ops with
    | nil => intro acc h; exact h
    | cons op rest ih => intro acc h; exact ih _ (h.runDOp op)
  exact this _ (SlotBucket.init cap)

/-- **dropping the vector drops every published item** (below the 27-bucket capacity): nothing that was
    published is leaked -/
theorem C11_vec_drop_complete (s : Shared) (n i v : Nat) (hi : i < n) (hcap : i ≤ MAX_ENTRIES) (hsb : SlotBucket s)
    (hs : s.slot i = some v) : v ∈ dropVec s n := by
  unfold dropVec
  rw [List.mem_filterMap]
  refine ⟨i, List.mem_range.mpr hi, ?_⟩
  have hv := C11_drop_visits_all s.bucket (bucketOf i) (C08_bucket_lt i hcap) (hsb i v hs)
  rw [if_pos (List.contains_iff_mem.mpr hv)]
  exact hs

/-- **dropping the vector drops each entry at most once**: the values dropped are read off one entry per index -/
theorem C11_vec_drop_once (s : Shared) (n : Nat) :
    (dropVec s n).length ≤ n ∧ ∀ v ∈ dropVec s n, ∃ i, i < n ∧ s.slot i = some v := by
  unfold dropVec
  refine ⟨Nat.le_trans (List.length_filterMap_le ..) (Nat.le_of_eq List.length_range), ?_⟩
  intro v hv
  rw [List.mem_filterMap] at hv
  obtain ⟨i, hi, hiv⟩ := hv
  refine ⟨i, List.mem_range.mp hi, ?_⟩
  split at hiv
  · exact hiv
  · cases hiv

/-- **a panicking fill callback**: the item it was called for is dropped (once, by unwinding) and its
    entry is never marked active, so dropping the vector later does not drop it again -/
theorem C11_push_panic (s : Shared) (v : Nat) (hfree : s.slot s.inflight = none) :
    (runDOp s (.push v true)).2 = [v] ∧ (runDOp s (.push v true)).1.slot s.inflight = none := by
  refine ⟨rfl, ?_⟩
  -- on the way to the callback only the counter and bucket pointers change
  show (eagerPush ((Eff.fa 1).apply s) s.inflight).slot s.inflight = none
  unfold eagerPush
  split <;> exact hfree

/-- a batch hands every item either to an entry (the first `stopAt`) or back to the unwinding /
    iterator drop (the rest): **nothing is dropped twice, nothing is forgotten** -/
theorem C11_extend_partition (vals : List Nat) (stopAt : Nat) : vals.take stopAt ++ vals.drop stopAt = vals :=
  List.take_append_drop stopAt vals

end NucleoVerif.Bx
