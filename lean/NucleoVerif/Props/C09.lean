import NucleoVerif.Model.MemModel
/-! # C09 — item data is published race-free to every reader

The orderings are those declared in the source (`Gen.atomicSites`, extracted on every run).  Each theorem is a
*certificate*: for every execution (events, program order, reads-from, library edges) whose
events follow the program skeleton stated in the hypotheses, the initialising write
happens-before the reading access.  Weakening any ordering a certificate needs makes the
evaluation of `C09_orderings` fail; strengthening keeps it valid.  The skeleton (which site follows
which in program order) is validated dynamically: the C08 correspondence run requires every
thread to execute exactly the site sequence the model predicts. -/
namespace NucleoVerif.MM
open Gen

/-- every atomic operation of the item vector is accounted for (an added or removed operation needs a
    new look at the certificates) -/
theorem C09_sites_covered : sitesCovered = true := by decide +kernel

/-- the orderings the certificates rely on -/
theorem C09_orderings :
    Role.activeStorePush.rel = true ∧ Role.activeStoreExtend.rel = true ∧
    Role.activeLoadGet.acq = true ∧ Role.activeLoadGetUnchecked.acq = true ∧ Role.activeLoadIter.acq = true ∧
    Role.entriesCasOk.rel = true ∧ Role.entriesCasFail.acq = true ∧
    Role.entriesLoadPush.acq = true ∧ Role.entriesLoadExtend0.acq = true ∧ Role.entriesLoadExtend1.acq = true ∧
    Role.entriesLoadGet.acq = true ∧ Role.entriesLoadIter.acq = true := by decide +kernel

theorem chain (x : Exec) (w s l r : x.E) (rs rl : Role)
    (hws : x.po w s) (hs : x.role s = some rs) (hrel : rs.rel = true)
    (hrf : x.rf s l) (hl : x.role l = some rl) (hacq : rl.acq = true) (hlr : x.hb l r) : x.hb w r :=
  .trans (.po hws) (.trans (.sw ⟨hrf, ⟨rs, hs, hrel⟩, ⟨rl, hl, hacq⟩⟩) hlr)

/-- publication of an entry: `write entry; active.store(true)` ⇒ `active.load() == true; …; read entry`, for
    either store and each of the three loads of `active` -/
theorem entry_chain (x : Exec) (w s l r : x.E) (rl : Role) (hws : x.po w s)
    (hs : x.role s = some .activeStorePush ∨ x.role s = some .activeStoreExtend) (hrf : x.rf s l)
    (hl : x.role l = some rl) (hrl : rl = .activeLoadGet ∨ rl = .activeLoadIter ∨ rl = .activeLoadGetUnchecked)
    (hlr : x.hb l r) : x.hb w r := by
  obtain ⟨storePush, storeExtend, loadGet, loadGetUnchecked, loadIter, -⟩ := C09_orderings
  have hacq : rl.acq = true := by
    rcases hrl with rfl | rfl | rfl
    · exact loadGet
    · exact loadIter
    · exact loadGetUnchecked
  rcases hs with hs | hs
  · exact chain x w s l r _ rl hws hs storePush hrf hl hacq hlr
  · exact chain x w s l r _ rl hws hs storeExtend hrf hl hacq hlr

/-- **`Injector::get` / `Snapshot::get_item`**: the entry (value and matcher columns) written by a push
    happens-before its read by any `get` that saw `active == true` (which only that push's store writes: C08) -/
theorem C09_get_reads_published (x : Exec) (w s l r : x.E)
    (hws : x.po w s) (hs : x.role s = some .activeStorePush ∨ x.role s = some .activeStoreExtend)
    (hrf : x.rf s l) (hl : x.role l = some .activeLoadGet) (hlr : x.po l r) : x.hb w r :=
  entry_chain x w s l r _ hws hs hrf hl (.inl rfl) (.po hlr)

/-- the same for the snapshot iterators used by the background run -/
theorem C09_iter_reads_published (x : Exec) (w s l r : x.E)
    (hws : x.po w s) (hs : x.role s = some .activeStorePush ∨ x.role s = some .activeStoreExtend)
    (hrf : x.rf s l) (hl : x.role l = some .activeLoadIter) (hlr : x.po l r) : x.hb w r :=
  entry_chain x w s l r _ hws hs hrf hl (.inr (.inl rfl)) (.po hlr)

/-- the program-order premise `po init cas` of the bucket-header certificates below is what the source says: in
    `get_or_alloc` every non-atomic initialisation of the fresh bucket's `active` flags is sequenced before the
    compare_exchange that publishes the bucket, and no such write is reachable on a bucket that may already be shared
    (extracted from `src/boxcar.rs` on every run) -/
theorem C09_bucket_init_precedes_publication : Gen.bucketInitBeforePublish = true := by decide

/-- **the bucket header** (the `active` flags are initialised non-atomically by the allocating thread
    before it publishes the pointer): initialisation happens-before every access through a pointer that
    was obtained from `entries` with acquire — by `get`, by the iterators, or by a writer (its load of the
    pointer or its failed CAS; otherwise it allocated the bucket itself) -/
theorem bucket_chain (x : Exec) (init cas ld use : x.E) (rl : Role)
    (h1 : x.po init cas) (hc : x.role cas = some .entriesCasOk) (hrf : x.rf cas ld) (hl : x.role ld = some rl)
    (hrl : rl = .entriesLoadGet ∨ rl = .entriesLoadIter ∨
      rl = .entriesLoadPush ∨ rl = .entriesLoadExtend0 ∨ rl = .entriesLoadExtend1 ∨ rl = .entriesCasFail)
    (h2 : x.po ld use) : x.hb init use := by
  obtain ⟨-, -, -, -, -, casOk, casFail, loadPush, loadExtend0, loadExtend1, loadGet, loadIter⟩ := C09_orderings
  have hacq : rl.acq = true := by
    rcases hrl with rfl | rfl | rfl | rfl | rfl | rfl
    · exact loadGet
    · exact loadIter
    · exact loadPush
    · exact loadExtend0
    · exact loadExtend1
    · exact casFail
  exact chain x init cas ld use _ rl h1 hc casOk hrf hl hacq (.po h2)

/-- `get`: needs `entriesLoadGet` to be acquire (finding F10) -/
theorem C09_bucket_init_get (x : Exec) (init cas ld use : x.E)
    (h1 : x.po init cas) (hc : x.role cas = some .entriesCasOk) (hrf : x.rf cas ld)
    (hl : x.role ld = some .entriesLoadGet) (h2 : x.po ld use) : x.hb init use :=
  bucket_chain x init cas ld use _ h1 hc hrf hl (.inl rfl) h2

theorem C09_bucket_init_iter (x : Exec) (init cas ld use : x.E)
    (h1 : x.po init cas) (hc : x.role cas = some .entriesCasOk) (hrf : x.rf cas ld)
    (hl : x.role ld = some .entriesLoadIter) (h2 : x.po ld use) : x.hb init use :=
  bucket_chain x init cas ld use _ h1 hc hrf hl (.inr (.inl rfl)) h2

/-- **`get_unchecked`** (used by `Snapshot::matched_items`, the rescoring pass and the sort's tie
    break): its own pointer load may be relaxed because of its contract — the caller has observed the
    entry active, i.e. some `obs` that is ordered after the publishing store and before this call.  The
    bucket's initialisation reaches it through the *publisher's* acquire of the pointer. -/
theorem C09_get_unchecked (x : Exec) (init cas pl w s obs call r : x.E) (rpl robs : Role)
    (h1 : x.po init cas) (hc : x.role cas = some .entriesCasOk) (hrf1 : x.rf cas pl)
    (hpl : x.role pl = some rpl) (hrpl : rpl = .entriesLoadPush ∨ rpl = .entriesLoadExtend0 ∨ rpl = .entriesLoadExtend1 ∨ rpl = .entriesCasFail)
    (h2 : x.po pl w) (h3 : x.po w s) (hs : x.role s = some .activeStorePush ∨ x.role s = some .activeStoreExtend)
    (hrf2 : x.rf s obs) (hobs : x.role obs = some robs) (hro : robs = .activeLoadGet ∨ robs = .activeLoadIter ∨ robs = .activeLoadGetUnchecked)
    (h4 : x.hb obs call) (h5 : x.po call r) : x.hb init r ∧ x.hb w r :=
  have hw : x.hb w r := entry_chain x w s obs r robs h3 hs hrf2 hobs hro (.trans h4 (.po h5))
  ⟨.trans (bucket_chain x init cas pl w rpl h1 hc hrf1 hpl (.inr (.inr hrpl)) h2) hw, hw⟩

/-- accesses serialised by the worker mutex, by `ThreadPool::spawn` (tick → run) and by `rayon::join` /
    parallel-iterator joins are ordered by library edges: the worker's result list, the per-thread
    matchers between consecutive runs, and `Drop`/`dealloc` of a stream (last `Arc` handle) -/
theorem C09_lib_ordered (x : Exec) (a b : x.E) (h : x.lib a b) : x.hb a b := .lib h

end NucleoVerif.MM
