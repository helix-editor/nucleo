import NucleoVerif.Lemmas.Tight
import NucleoVerif.Props.C03
/-! # C03 — the score of exact, prefix and postfix matches is the scheme's value of the reported
(contiguous) alignment -/
namespace NucleoVerif
open Gen Spec

theorem C03_exactImpl_score (cfg : Cfg) (ext : Ext) (hrep nrep : Rep) (h : List Nat) (n0 : Nat) (ns : List Nat) (start end_ : Nat)
    (hk1 : ¬ (hrep = .ascii ∧ nrep = .unicode)) (hn : (n0 :: ns).map (norm cfg nrep) = n0 :: ns)
    (hr : hrep = .ascii → ∀ c ∈ h, c < 128) (hw : cfg.white ≤ 10) (hd : cfg.delim ≤ 10) (hpp : cfg.preferPrefix = false)
    (sc : Nat) (idx : List Nat) (hres : exactImpl cfg ext hrep nrep h (n0 :: ns) start end_ = some (sc, idx))
    (hns : alignNoSat cfg ext h idx) : sc = alignScore cfg ext h idx := by
  -- the window spells the needle, so it is tight and ends at the last reported index
  obtain ⟨tw, hcs⟩ := exactImpl_tight cfg ext hrep nrep h n0 ns start end_ hk1 hn _ hres
  have hlast := (calculateScore_tight_last cfg ext hrep h n0 ns start end_ tw).2.2.2
  have := C03_calculateScore_eq_alignScore cfg ext hrep h n0 ns start end_ tw.1 tw.2.1 hw hd hpp
    (by rw [hlast, Option.getD_some]; exact Nat.sub_add_cancel (Nat.succ_le_of_lt (Nat.zero_lt_of_lt tw.1)))
    (by rw [← hcs]; exact hns)
  rwa [← hcs] at this

/-- prefix, postfix and exact matching return the scheme's value of the alignment they report (prefix preference off,
    accumulator unsaturated) -/
theorem C03_anchored_score (cfg : Cfg) (ext : Ext) (hrep nrep : Rep) (h : List Nat) (n0 : Nat) (ns : List Nat)
    (hk1 : ¬ (hrep = .ascii ∧ nrep = .unicode)) (hn : (n0 :: ns).map (norm cfg nrep) = n0 :: ns)
    (hr : hrep = .ascii → ∀ c ∈ h, c < 128) (hw : cfg.white ≤ 10) (hd : cfg.delim ≤ 10) (hpp : cfg.preferPrefix = false)
    (sc : Nat) (idx : List Nat)
    (hres : prefixMatch cfg ext hrep nrep h (n0 :: ns) = some (sc, idx) ∨ postfixMatch cfg ext hrep nrep h (n0 :: ns) = some (sc, idx) ∨
      exactMatch cfg ext hrep nrep h (n0 :: ns) = some (sc, idx))
    (hns : alignNoSat cfg ext h idx) : sc = alignScore cfg ext h idx := by
  rcases hres with hres | hres | hres
  · exact C03_exactImpl_score cfg ext hrep nrep h n0 ns _ _ hk1 hn hr hw hd hpp sc idx
      (prefixMatch_some cfg ext hrep nrep h n0 ns _ hres) hns
  · exact C03_exactImpl_score cfg ext hrep nrep h n0 ns _ _ hk1 hn hr hw hd hpp sc idx
      (postfixMatch_some cfg ext hrep nrep h n0 ns _ hres) hns
  · exact C03_exactImpl_score cfg ext hrep nrep h n0 ns _ _ hk1 hn hr hw hd hpp sc idx
      (exactMatch_some cfg ext hrep nrep h n0 ns _ hres) hns

end NucleoVerif
