import NucleoVerif.Props.C06
import NucleoVerif.Model.Pattern
/-! # C07 — a quiescent matcher converges to the from-scratch result

Convergence rests on the protocol facts of C19/C12, the run contract of C06 and the soundness of the `Update`
shortcut: reusing the previous matches is only allowed when every item matched by the new pattern was matched by
the old one.  Here: the decision rule of the shortcut, i.e. what `MultiPattern::reparse` excludes (finding F9), on
the parser model, with a witness for each excluded class; and that a cancelling tick of `Nu.Nucleo` hands the worker
the current pattern.  The end-to-end statement is evaluated on every generated history against a fresh `Nucleo`
(oracle C07). -/
namespace NucleoVerif

/-- `Update` is chosen only for a truthful append onto a column that was not already due for a
    rescore and whose last atom can only be narrowed by more text -/
theorem C07_update_rule (old : PStatus) (atoms newAtoms : List Atom) (append : Bool)
    (h : reparseStatus old atoms newAtoms append = .update) :
    append = true ∧ old ≠ .rescore ∧ (∀ a, atoms.getLast? = some a → lastAtomAllowsUpdate a = true) ∧
    normKept atoms newAtoms = true := by
  unfold reparseStatus at h
  simp only [ne_eq, decide_not, Bool.and_eq_true, Bool.not_eq_eq_eq_not, Bool.not_true, decide_eq_false_iff_not,
    ite_eq_left_iff, not_and, Bool.not_eq_true, and_imp, reduceCtorEq, imp_false, not_imp, Bool.not_eq_false] at h
  obtain ⟨h1, h2, h3, h4⟩ := h
  refine ⟨h1, h2, fun a ha => ?_, h4⟩
  rw [ha] at h3
  exact h3

/-- the last atom keeps normalizing unless it did not before (finding F16: appended text that switches smart
    normalization off must not take the shortcut) -/
theorem C07_update_keeps_normalization (old : PStatus) (atoms newAtoms : List Atom) (append : Bool) (a b : Atom)
    (h : reparseStatus old atoms newAtoms append = .update) (ha : atoms.getLast? = some a) (hb : newAtoms[atoms.length - 1]? = some b)
    (hn : a.normalize = true) : b.normalize = true := by
  have := (C07_update_rule old atoms newAtoms append h).2.2.2
  unfold normKept at this
  rw [ha, hb] at this
  simp only [hn, Bool.true_and, Bool.not_not] at this
  exact this

/-- what the rule excludes: negated atoms, postfix/exact atoms (`foo$`), a text ending in a backslash,
    and a non-fuzzy atom ending in an escaped `\$` -/
theorem C07_last_atom_rule (a : Atom) (h : lastAtomAllowsUpdate a = true) :
    a.negative = false ∧ a.kind ≠ .postfix ∧ a.kind ≠ .exact ∧ a.needle.getLast? ≠ some 92 ∧
    (a.needle.getLast? = some 36 → a.kind = .fuzzy) := by
  unfold lastAtomAllowsUpdate at h
  simp only [Bool.and_eq_true, Bool.not_eq_true', bne_iff_ne, ne_eq] at h
  obtain ⟨⟨⟨h1, h2⟩, h3⟩, h4⟩ := h
  refine ⟨h1, h2, h3, ?_, ?_⟩
  · intro hl; simp [hl] at h4
  · intro hl; simpa [hl] using h4

/-! why each class must be excluded — the new parse is not a narrowing of the old one (parser model;
    segmentation irrelevant for ASCII) -/

/-- `foo$` → `foo$b`: the postfix atom "foo" becomes the fuzzy atom "foo$b" -/
example :
    (parsePattern (fun c => c.map (fun _ => 1)) [102, 111, 111, 36] .smart .smart).map (fun a => (a.kind, a.needle)) = [(.postfix, [102, 111, 111])] ∧
    (parsePattern (fun c => c.map (fun _ => 1)) [102, 111, 111, 36, 98] .smart .smart).map (fun a => (a.kind, a.needle)) = [(.fuzzy, [102, 111, 111, 36, 98])] := by
  decide +kernel

/-- `a\` → `a\ b`: the atom `a\` becomes the atom `a b` (the backslash now escapes the space) -/
example :
    (parsePattern (fun c => c.map (fun _ => 1)) [97, 92] .smart .smart).map (·.needle) = [[97, 92]] ∧
    (parsePattern (fun c => c.map (fun _ => 1)) [97, 92, 32, 98] .smart .smart).map (·.needle) = [[97, 32, 98]] := by
  decide +kernel

/-- `\` → `\!a`: the atom `\` becomes the atom `!a` -/
example :
    (parsePattern (fun c => c.map (fun _ => 1)) [92] .smart .smart).map (·.needle) = [[92]] ∧
    (parsePattern (fun c => c.map (fun _ => 1)) [92, 33, 97] .smart .smart).map (·.needle) = [[33, 97]] := by
  decide +kernel

/-- `^a\$` → `^a\$b`: the prefix "a$" becomes the prefix `a\$b` -/
example :
    (parsePattern (fun c => c.map (fun _ => 1)) [94, 97, 92, 36] .smart .smart).map (fun a => (a.kind, a.needle)) = [(.prefix, [97, 36])] ∧
    (parsePattern (fun c => c.map (fun _ => 1)) [94, 97, 92, 36, 98] .smart .smart).map (fun a => (a.kind, a.needle)) = [(.prefix, [97, 92, 36, 98])] := by
  decide +kernel

/-- a cancelling tick always hands the worker the matcher's current pattern -/
theorem C07_run_gets_current_pattern (n : Nu.Nucleo) (o : Nu.TickOracle) :
    (n.tickCancelFirst o).1.worker.pattern = n.pattern ∧ (n.tickCancelFirst o).1.pending.isSome = true := by
  rw [Nu.Nucleo.tickCancelFirst_eq]
  exact ⟨rfl, rfl⟩

end NucleoVerif
