import NucleoVerif.Props.C04
import NucleoVerif.Lemmas.Entry
/-! # C04 — the one-character optimum on code-point haystacks

`substring_match_1_non_ascii` behind the non-ASCII prefilter (the path `fuzzy_match` takes for a one-character needle
on a code-point haystack) returns the true optimum at the leftmost best-placed occurrence. -/
namespace NucleoVerif
open Gen Spec Sub

/-- `substring_match_1_non_ascii` scans the window from `start` with relative positions and adds `start` to the
    position it found -/
def Best.shift (k : Nat) (b : Best) : Best := { b with pos := b.pos + k }

theorem Best.offer_shift (cfg : Cfg) (b : Best) (pos bonus k : Nat) (ok : Bool) :
    (b.shift k).offer cfg (pos + k) bonus ok = (b.offer cfg pos bonus ok).shift k := by
  unfold Best.offer Best.shift
  simp only
  split
  · rfl
  · split <;> rfl

theorem scan1_shift (cfg : Cfg) (m : Nat → Bool) (cl : Nat → CharClass) (k : Nat) :
    ∀ (xs : List Nat) (b : Best) (prev : CharClass) (pos : Nat),
      scan1 cfg m cl (b.shift k) prev (pos + k) xs = (scan1 cfg m cl b prev pos xs).shift k := by
  intro xs
  induction xs with
  | nil => intro _ _ _; rfl
  | cons x xs ih =>
    intro b prev pos
    simp only [scan1]
    have e : pos + k + 1 = pos + 1 + k := by omega
    rw [e]
    by_cases hm : m x = true
    · simp only [hm, if_true]
      rw [Best.offer_shift, ih]
    · simp only [hm, Bool.false_eq_true, if_false]
      rw [ih]

theorem substring1NonAscii_go_eq (cfg : Cfg) (ext : Ext) (c : Nat) :
    ∀ (xs : List Nat) (b : Best) (prev : CharClass) (pos : Nat),
      substring1NonAscii.go cfg ext c b prev pos xs = scan1 cfg (fun x => decide (cnormChar cfg x = c)) (charClass cfg ext) b prev pos xs := by
  intro xs
  induction xs with
  | nil => intro _ _ _; rfl
  | cons x xs ih =>
    intro b prev pos
    simp only [substring1NonAscii.go, scan1]
    rw [ih]
    congr 1
    by_cases hx : cnormChar cfg x = c
    · simp [hx]
    · simp [hx]

/-- for a one-character needle on a code-point haystack the matcher returns the true optimum, at the leftmost
    best-placed occurrence — every configuration whose largest boundary bonus is at least 8 (all presets) -/
theorem C04_one_char_optimum_unicode (cfg : Cfg) (ext : Ext) (h : List Nat) (c : Nat) (hb : 8 ≤ maxBonus cfg) :
    match prefilterNonAscii cfg h [c] true with
    | none => allAlignments cfg .unicode [c] 0 h = []
    | some (start, _) =>
      (substring1NonAscii cfg ext h c start).1 = maxAlignScore cfg ext .unicode h [c] ∧
      ∃ p, (substring1NonAscii cfg ext h c start).2 = [p] ∧ [p] ∈ allAlignments cfg .unicode [c] 0 h ∧
        alignScore cfg ext h [p] = (substring1NonAscii cfg ext h c start).1 ∧
        ∀ q, [q] ∈ allAlignments cfg .unicode [c] 0 h → alignScore cfg ext h [q] = (substring1NonAscii cfg ext h c start).1 → p ≤ q := by
  have hm : ∀ x, decide (cnormChar cfg x = c) = true ↔ norm cfg .unicode x = c := fun x => by
    rw [decide_eq_true_eq, cnormChar_eq]; rfl
  -- the searched prefix is the whole haystack
  have htk : h.take (h.length - 1 + 1) = h := List.take_of_length_le (by omega)
  unfold prefilterNonAscii
  simp only [List.length_singleton, if_true, htk]
  cases hf : findIdx (fun c_1 => decide (normChar cfg c_1 = c)) h with
  | none =>
    have := allAlignments_skip cfg .unicode c h 0 h.length (fun x hx =>
      (of_decide_eq_false (findIdx_none _ _ hf x (List.mem_of_mem_take hx)) : ¬ normChar cfg x = c))
    rw [List.drop_length] at this
    exact this
  | some start =>
    obtain ⟨f1, ⟨x, f2, f3⟩, f4⟩ := findIdx_some _ _ _ hf
    simp only [if_neg (Nat.not_lt.mpr (Nat.sub_pos_of_lt f1))]
    obtain ⟨_, o2⟩ := scan1_optimum cfg ext .unicode h c hb _ (charClass cfg ext) hm start (fun _ _ => rfl)
      (fun y hy => (of_decide_eq_false (f4 y hy) : ¬ normChar cfg y = c)) _ rfl
    -- the prefilter's hit is a candidate, so the scan ends with a positive score
    have hz := (scan1_pos cfg (fun x => decide (cnormChar cfg x = c)) (charClass cfg ext) (h.drop start) ⟨0, start, false⟩
      (prevClassAt cfg ext h start) start (fun hs => by cases hs)).mpr
      (Or.inr ⟨x, List.mem_of_getElem? (by rwa [List.getElem?_drop, Nat.add_zero] : (h.drop start)[0]? = some x),
        (hm x).mpr (of_decide_eq_true f3 : normChar cfg x = c)⟩)
    obtain ⟨e1, e2, e3, e4⟩ := o2 hz
    -- the code scans with relative positions and adds `start` afterwards
    have hrel : substring1NonAscii cfg ext h c start =
        ((scan1 cfg (fun x => decide (cnormChar cfg x = c)) (charClass cfg ext) ⟨0, start, false⟩
            (prevClassAt cfg ext h start) start (h.drop start)).score,
         [(scan1 cfg (fun x => decide (cnormChar cfg x = c)) (charClass cfg ext) ⟨0, start, false⟩
            (prevClassAt cfg ext h start) start (h.drop start)).pos]) := by
      have := scan1_shift cfg (fun x => decide (cnormChar cfg x = c)) (charClass cfg ext) start (h.drop start) ⟨0, 0, false⟩
        (prevClassAt cfg ext h start) 0
      simp only [Best.shift, Nat.zero_add] at this
      rw [substring1NonAscii, substring1NonAscii_go_eq, this]
    rw [hrel]
    exact ⟨e1, _, rfl, e2, e3, e4⟩

end NucleoVerif
