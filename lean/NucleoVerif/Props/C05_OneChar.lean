import NucleoVerif.Props.C05_Entry
/-! # C05 — one-character needles of `substring_match` -/
namespace NucleoVerif
open Gen Spec

/-- on a one-character needle `substring_match` takes the same steps as `fuzzy_match` -/
theorem substringMatch_single (cfg : Cfg) (ext : Ext) (hrep nrep : Rep) (h : List Nat) (c : Nat) :
    substringMatch cfg ext hrep nrep h [c] = fuzzyMatch cfg ext hrep nrep h [c] := by
  cases hrep <;> cases nrep <;> rfl

/-- One-character needles (`substring_match_1_ascii`, `substring_match_1_non_ascii` behind the greedy-only prefilter,
    and the equal-length shortcut): the match succeeds exactly when the character occurs in the normalized haystack. -/
theorem C05_substring_one_char (cfg : Cfg) (ext : Ext) (hrep nrep : Rep) (h : List Nat) (c : Nat)
    (hk1 : ¬ (hrep = .ascii ∧ nrep = .unicode)) (hn : norm cfg nrep c = c) :
    (substringMatch cfg ext hrep nrep h [c]).isSome = decide (c ∈ normHay cfg hrep h) := by
  -- a one-character needle occurs contiguously iff it is a subsequence
  rw [substringMatch_single, C01_decision cfg ext hrep nrep h [c] hk1 (by rw [List.map_cons, hn]; rfl), subseqB_single]

end NucleoVerif
