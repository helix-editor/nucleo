import NucleoVerif.Props.C07_Append
/-! # C07 (companion file) — appending text narrows a substring or prefix atom, too

The two other kinds `can_append_to` admits besides fuzzy: whatever `substring_match` / `prefix_match` find for `n ++ s`
they find for `n` (same configuration flags). -/
namespace NucleoVerif
open Gen Spec

theorem algo_append_narrows (k : AtomKind) (cfg : Cfg) (ext : Ext) (hrep nrep : Rep) (h n s : List Nat)
    (hk : ¬ (hrep = .ascii ∧ nrep = .unicode)) (hasc : hrep = .ascii → ∀ x ∈ h, x < 128)
    (hb : k = .substring → 8 ≤ maxBonus cfg)
    (hadm : k ≠ .postfix ∧ k ≠ .exact) (hne : n ≠ []) (hn : (n ++ s).map (norm cfg nrep) = n ++ s)
    (hm : (k.algo.run cfg ext hrep nrep h (n ++ s)).isSome = true) : (k.algo.run cfg ext hrep nrep h n).isSome = true :=
  algo_narrows k k cfg cfg ext hrep nrep nrep h n (n ++ s) id hk hk hasc (fun e => ⟨hb e, hb e⟩) (fun _ => rfl)
    (Or.inl ⟨rfl, hadm⟩) (Or.inl (List.prefix_append n s)) hne (List.map_id n) (map_eq_of_append hn) hn hm

theorem C07_substring_append_narrows_unicode (cfg : Cfg) (ext : Ext) (nrep : Rep) (h : List Nat) (n0 n1 : Nat) (ns s : List Nat)
    (hb : 8 ≤ maxBonus cfg) (hn : ((n0 :: n1 :: ns) ++ s).map (norm cfg nrep) = (n0 :: n1 :: ns) ++ s)
    (hm : (substringMatch cfg ext .unicode nrep h ((n0 :: n1 :: ns) ++ s)).isSome = true) :
    (substringMatch cfg ext .unicode nrep h (n0 :: n1 :: ns)).isSome = true :=
  algo_append_narrows .substring cfg ext .unicode nrep h _ s (hk := nofun) (hasc := nofun) (fun _ => hb)
    (by simp) (by simp) hn hm

theorem C07_substring_append_narrows_ascii (cfg : Cfg) (ext : Ext) (h : List Nat) (n0 n1 : Nat) (ns s : List Nat)
    (hb : 8 ≤ maxBonus cfg) (hasc : ∀ x ∈ h, x < 128) (hn : ∀ c ∈ (n0 :: n1 :: ns) ++ s, normAscii cfg c = c)
    (hm : (substringMatch cfg ext .ascii .ascii h ((n0 :: n1 :: ns) ++ s)).isSome = true) :
    (substringMatch cfg ext .ascii .ascii h (n0 :: n1 :: ns)).isSome = true :=
  algo_append_narrows .substring cfg ext .ascii .ascii h _ s (hk := nofun) (hasc := fun _ => hasc) (fun _ => hb)
    (by simp) (by simp) (map_eq_self _ _ hn) hm

theorem C07_prefix_append_narrows (cfg : Cfg) (ext : Ext) (hrep nrep : Rep) (h : List Nat) (n0 : Nat) (ns s : List Nat)
    (hk1 : ¬ (hrep = .ascii ∧ nrep = .unicode)) (hn : ((n0 :: ns) ++ s).map (norm cfg nrep) = (n0 :: ns) ++ s)
    (hm : (prefixMatch cfg ext hrep nrep h ((n0 :: ns) ++ s)).isSome = true) :
    (prefixMatch cfg ext hrep nrep h (n0 :: ns)).isSome = true := by
  -- no condition on an ASCII haystack here: `C05_prefix` needs none
  have hL : (normHay cfg hrep h).length = h.length := by simp [normHay]
  rw [show (n0 :: ns) ++ s = n0 :: (ns ++ s) from rfl] at hm hn
  rw [C05_prefix cfg ext hrep nrep h n0 (ns ++ s) hk1 hn] at hm
  rw [C05_prefix cfg ext hrep nrep h n0 ns hk1 (map_eq_of_append (s := s) hn)]
  have := kindDec_narrows .prefix .prefix hrep h _ (n0 :: ns) (n0 :: (ns ++ s)) id hL (Or.inl ⟨rfl, by simp, by simp⟩)
    (Or.inl (List.prefix_append _ s)) (by simp) (List.map_id _) hm
  rwa [List.map_id] at this

end NucleoVerif
