import NucleoVerif.Lemmas.Tick
import NucleoVerif.Lemmas.List
/-! # C06 — every snapshot is safe to read and internally consistent

The guard: the snapshot is only ever replaced by the result of an un-cancelled run while the matcher is `Fresh`.
`reset_matches` does not depend on the order in which the pool threads reported the in-flight indices (the sort whose
absence was finding F11).  The run's own contract is `C06_RunContract`. -/
namespace NucleoVerif.Nu

/-- C06, the guard: the snapshot only ever changes to the result of a finished, un-cancelled run, and only when the
    matcher is not waiting for the first run after a restart -/
theorem C06_snapshot_guard (n : Nucleo) (h : n.snapAfter ≠ n.snapshot) :
    n.worker.running = true ∧ n.worker.wasCanceled = false ∧ n.state = .fresh ∧ n.snapAfter = n.snapshot.update n.worker := by
  unfold Nucleo.snapAfter at *
  split at h
  · rename_i hc
    exact ⟨hc.1, by simpa using hc.2.1, (NState.canceled_eq_false_iff _).mp (by simpa using hc.2.2), if_pos hc⟩
  · exact absurd rfl h

theorem C06_item_count (s : Snapshot) (w : Worker) : (s.update w).itemCount = w.lastSnapshot - w.inFlight.length := rfl

theorem sortNat_perm (l : List Nat) : (sortNat l).Perm l :=
  foldr_ins_perm (ins := insertNat) (fun _ => rfl) (fun _ _ _ => rfl) l

/-- the in-flight indices are processed in ascending order whatever order the pool threads reported them in -/
theorem C06_in_flight_sorted (l : List Nat) : (sortNat l).Pairwise (· ≤ ·) ∧ (sortNat l).Perm l :=
  ⟨foldr_ins_sorted (ins := insertNat) (fun _ => rfl) (fun _ _ _ => rfl) (fun _ _ h => h)
    (fun _ _ h => Nat.le_of_lt (Nat.not_le.mp h)) (fun _ _ _ => Nat.le_trans) l, sortNat_perm l⟩

theorem sortNat_eq_of_perm {l l' : List Nat} (h : l.Perm l') : sortNat l = sortNat l' :=
  List.Perm.eq_of_pairwise (fun _ _ _ _ => Nat.le_antisymm) (C06_in_flight_sorted l).1 (C06_in_flight_sorted l').1
    (((C06_in_flight_sorted l).2.trans h).trans (C06_in_flight_sorted l').2.symm)

theorem resetMatches_perm (w : Worker) (seen : Nat → Option Item) (fl : List Nat) (h : fl.Perm w.inFlight) :
    resetMatches { w with inFlight := fl } seen = resetMatches w seen := by
  unfold resetMatches
  simp only [sortNat_eq_of_perm h]

theorem C06_reset_order_independent (w : Worker) (seen : Nat → Option Item) (fl : List Nat) (h : fl.Perm w.inFlight)
    (hs : sortNat fl = sortNat w.inFlight) :
    resetMatches { w with inFlight := fl } seen = resetMatches w seen :=
  resetMatches_perm w seen fl h

/-- finding F11 on the model: in-flight indices reported as `[5, 3]`, both still unpublished.  With the sort the loop
    removes entries 3 and 5; without it, entries 5 and 2, keeping the unpublished 3 -/
example :
    let w : Worker := { running := false, hits := [], pattern := 1, wasCanceled := false, lastSnapshot := 7, inFlight := [5, 3], stream := 0 }
    let seen : Nat → Option Item := fun i => if i = 3 ∨ i = 5 then none else some i
    ((resetMatches w seen).hits.map (·.idx) = [0, 1, 2, 4, 6]) ∧
    ((removeInFlightGo seen [5, 3] 0 ((List.range 7).map (fun i => Match.mk 0 i)) []).1.map (·.idx) = [0, 1, 3, 4, 6]) := by
  decide

/-- a placeholder never precedes a real match with the same score: after sorting the placeholders form the tail that
    `truncate` removes -/
theorem matchLess_placeholder (len : Item → Nat) (items : Nat → Option Item) (a b : Match)
    (ha : a.idx = PLACE) (hs : a.score = b.score) : matchLess len items a b = false := by
  simp [matchLess, hs, ha]

theorem matchLess_irrefl (len : Item → Nat) (items : Nat → Option Item) (a : Match) : matchLess len items a a = false := by
  simp [matchLess]

end NucleoVerif.Nu
