import NucleoVerif.Props.C07_NormFlip
/-! # C07 (companion file) — a fuzzy atom narrows under edits that do more than append to its needle -/
namespace NucleoVerif
open Gen Spec Sub

/-- **a fuzzy atom whose needle contains the old needle as a subsequence narrows** (same flags; code-point haystacks).
    This is the general form of `C07_fuzzy_append_narrows_unicode`: it also covers edits that do more than append to the
    needle — an escaped `\$` that becomes literal again (`a\$` → `a\$b`: needle `a$` → `a\$b`), a `\ ` that joins
    two words — as long as the old needle's characters survive in order, which the `narrow` stream checks on the parser
    model for every generated edit that takes the shortcut. -/
theorem C07_fuzzy_sublist_narrows_unicode (cfg : Cfg) (ext : Ext) (nrep nrep' : Rep) (h n n' : List Nat)
    (hsub : n.Sublist n') (hn : n.map (norm cfg nrep) = n) (hn' : n'.map (norm cfg nrep') = n')
    (hm : (fuzzyMatch cfg ext .unicode nrep' h n').isSome = true) : (fuzzyMatch cfg ext .unicode nrep h n).isSome = true :=
  fuzzy_narrows cfg cfg ext .unicode nrep nrep' h n n' id (hk := nofun) (hk' := nofun)
    (fun _ => rfl) (by rw [List.map_id]; exact hsub) hn hn' hm

/-- the same across the smart-case flip: the new needle is matched case-sensitively, the old one (its own lower case)
    case-insensitively, and the old needle is a subsequence of the lower-cased new one -/
theorem C07_fuzzy_sublist_narrows_case_flip_unicode (cfg : Cfg) (ext : Ext) (nrep nrep' : Rep) (h n n' : List Nat)
    (hsub : n.Sublist (n'.map toLower))
    (hI : n.map (norm { cfg with ignoreCase := true } nrep) = n) (hS : n'.map (norm { cfg with ignoreCase := false } nrep') = n')
    (hm : (fuzzyMatch { cfg with ignoreCase := false } ext .unicode nrep' h n').isSome = true) :
    (fuzzyMatch { cfg with ignoreCase := true } ext .unicode nrep h n).isSome = true :=
  fuzzy_narrows { cfg with ignoreCase := true } { cfg with ignoreCase := false } ext .unicode nrep nrep' h n n' toLower
    (hk := nofun) (hk' := nofun) (norm_ignoreCase cfg) hsub hI hS hm

end NucleoVerif
