import NucleoVerif.Props.C14
import NucleoVerif.Props.C16
/-! # C14 (companion file) — both paths of `Atom::new_inner` compute one function

For ASCII text `new_inner` works on the bytes (`split("\\ ")`, `to_ascii_lowercase`, `is_ascii_uppercase`); otherwise it
walks the grapheme clusters with a `saw_backslash` state machine and the Unicode tables.  Both compute `atomSpec` of the
text's characters: the needle is `replaceEscSpace` of them, lower-cased when case is ignored; smart case is "no upper-case
character"; smart normalization "normalization changes none of the case-mapped characters" (`fold_char` folds first and
tests then).  No assumption about the segmentation is needed. -/
namespace NucleoVerif
open Gen

/-- what is stored for a character -/
def caseMap (case : CaseMatching) (c : Nat) : Nat :=
  match case with
  | .ignore => toLower c
  | _ => c

/-- the `ignore_case` flag of an atom whose (unescaped) characters are `l` -/
def icSpec (case : CaseMatching) (l : List Nat) : Bool :=
  match case with
  | .ignore => true
  | .smart => !l.any isUpper
  | .respect => false

/-- the `normalize` flag -/
def nzSpec (case : CaseMatching) (norm : Normalization) (l : List Nat) : Bool :=
  match norm with
  | .smart => l.all (fun c => decide (normalizeLatin (caseMap case c) = caseMap case c))
  | .never => false

/-- **the one function both paths compute**: from the characters `cs` of the atom's text -/
def atomSpec (rep : Rep) (cs : List Nat) (case : CaseMatching) (norm : Normalization) (kind : AtomKind) (escapeWs appendDollar : Bool) : Atom :=
  let l := if escapeWs then replaceEscSpace cs else cs
  { negative := false, kind := kind, needleRep := rep,
    needle := (l.map (caseMap case)) ++ (if appendDollar then [36] else []),
    ignoreCase := icSpec case l, normalize := nzSpec case norm l }

/-- an ASCII character that is not an upper-case letter is stored as it is and leaves both flags alone -/
theorem plain_ascii (case : CaseMatching) {c : Nat} (h : c < 128) (hu : ¬ (65 ≤ c ∧ c ≤ 90)) :
    caseMap case c = c ∧ isUpper c = false ∧ normalizeLatin (caseMap case c) = caseMap case c := by
  have hm : caseMap case c = c := by
    cases case
    · rfl
    · exact (C16_fold_ascii c h).trans (if_neg hu)
    · rfl
  exact ⟨hm, (isUpper_ascii c h).trans (decide_eq_false hu), by rw [hm]; exact C16_latin_ascii c h⟩

/-- the flags after the characters `l` have gone through `foldChar` -/
def icAfter (case : CaseMatching) (l : List Nat) (ic : Bool) : Bool :=
  match case with
  | .smart => ic && !l.any isUpper
  | _ => ic

def nzAfter (case : CaseMatching) (norm : Normalization) (l : List Nat) (nz : Bool) : Bool :=
  match norm with
  | .smart => nz && l.all (fun c => decide (normalizeLatin (caseMap case c) = caseMap case c))
  | .never => nz

theorem foldChar_eq (case : CaseMatching) (norm : Normalization) (c : Nat) (ic nz : Bool) :
    foldChar case norm c ic nz = (caseMap case c, icAfter case [c] ic, nzAfter case norm [c] nz) := by
  cases case <;> cases norm <;> simp [foldChar, caseMap, icAfter, nzAfter] <;> rfl

theorem icAfter_nil (case : CaseMatching) (ic : Bool) : icAfter case [] ic = ic := by
  cases case <;> simp [icAfter]

theorem nzAfter_nil (case : CaseMatching) (norm : Normalization) (nz : Bool) : nzAfter case norm [] nz = nz := by
  cases norm <;> simp [nzAfter]

theorem icAfter_cons (case : CaseMatching) (c : Nat) (l : List Nat) (ic : Bool) :
    icAfter case (c :: l) ic = icAfter case l (icAfter case [c] ic) := by
  cases case <;> simp [icAfter, Bool.and_assoc]

theorem nzAfter_cons (case : CaseMatching) (norm : Normalization) (c : Nat) (l : List Nat) (nz : Bool) :
    nzAfter case norm (c :: l) nz = nzAfter case norm l (nzAfter case norm [c] nz) := by
  cases norm <;> simp [nzAfter, Bool.and_assoc]

theorem icAfter_cons_skip (case : CaseMatching) {c : Nat} (hc : isUpper c = false) (l : List Nat) (ic : Bool) :
    icAfter case (c :: l) ic = icAfter case l ic := by
  cases case <;> simp [icAfter, hc]

theorem nzAfter_cons_skip (case : CaseMatching) (norm : Normalization) {c : Nat}
    (hc : normalizeLatin (caseMap case c) = caseMap case c) (l : List Nat) (nz : Bool) :
    nzAfter case norm (c :: l) nz = nzAfter case norm l nz := by
  cases norm <;> simp [nzAfter, hc]

theorem escStep_saw_space (case : CaseMatching) (norm : Normalization) (out : List Nat) (ic nz : Bool) :
    escStep case norm ⟨out, true, ic, nz⟩ 32 = ⟨32 :: out, false, ic, nz⟩ := by
  simp [escStep]

theorem escStep_saw_bs (case : CaseMatching) (norm : Normalization) (out : List Nat) (ic nz : Bool) :
    escStep case norm ⟨out, true, ic, nz⟩ 92 = ⟨92 :: out, true, ic, nz⟩ := by
  simp [escStep]

theorem escStep_saw_other (case : CaseMatching) (norm : Normalization) (out : List Nat) (ic nz : Bool) (c : Nat)
    (h32 : c ≠ 32) (h92 : c ≠ 92) :
    escStep case norm ⟨out, true, ic, nz⟩ c =
      ⟨caseMap case c :: 92 :: out, false, icAfter case [c] ic, nzAfter case norm [c] nz⟩ := by
  simp [escStep, h32, h92, foldChar_eq]

theorem escStep_nosaw_bs (case : CaseMatching) (norm : Normalization) (out : List Nat) (ic nz : Bool) :
    escStep case norm ⟨out, false, ic, nz⟩ 92 = ⟨out, true, ic, nz⟩ := by
  simp [escStep]

theorem escStep_nosaw_other (case : CaseMatching) (norm : Normalization) (out : List Nat) (ic nz : Bool) (c : Nat)
    (h92 : c ≠ 92) :
    escStep case norm ⟨out, false, ic, nz⟩ c =
      ⟨caseMap case c :: out, false, icAfter case [c] ic, nzAfter case norm [c] nz⟩ := by
  simp [escStep, h92, foldChar_eq]

/-- the loop with its final "flush a pending backslash" -/
def escRun (case : CaseMatching) (norm : Normalization) (cs : List Nat) (s : EscSt) : EscSt :=
  let t := cs.foldl (escStep case norm) s
  if t.saw then { t with out := 92 :: t.out } else t

theorem escRun_cons (case : CaseMatching) (norm : Normalization) (c : Nat) (cs : List Nat) (s : EscSt) :
    escRun case norm (c :: cs) s = escRun case norm cs (escStep case norm s c) := rfl

/-- what the loop has to produce from state `s` on input `cs`: a pending backslash counts as one more character in front -/
def pendingInput (saw : Bool) (cs : List Nat) : List Nat := if saw then 92 :: cs else cs

/-- **the escape loop is `replaceEscSpace`**, from any state: a pending backslash is one more `\` in front of the
    input (`pendingInput`), which is what lets the induction go through -/
theorem escRun_spec (case : CaseMatching) (norm : Normalization) : ∀ (cs : List Nat) (out : List Nat) (saw ic nz : Bool),
    (escRun case norm cs ⟨out, saw, ic, nz⟩).out.reverse = out.reverse ++ (replaceEscSpace (pendingInput saw cs)).map (caseMap case) ∧
    (escRun case norm cs ⟨out, saw, ic, nz⟩).ic = icAfter case (replaceEscSpace (pendingInput saw cs)) ic ∧
    (escRun case norm cs ⟨out, saw, ic, nz⟩).nz = nzAfter case norm (replaceEscSpace (pendingInput saw cs)) nz := by
  have bs := plain_ascii case (c := 92) (by omega) (by omega)
  have sp := plain_ascii case (c := 32) (by omega) (by omega)
  intro cs
  induction cs with
  | nil =>
    intro out saw ic nz
    cases saw with
    | true =>
      refine ⟨by simp [escRun, pendingInput, replaceEscSpace, bs.1], ?_, ?_⟩
      · show ic = icAfter case [92] ic
        rw [icAfter_cons_skip case bs.2.1, icAfter_nil]
      · show nz = nzAfter case norm [92] nz
        rw [nzAfter_cons_skip case norm bs.2.2, nzAfter_nil]
    | false =>
      refine ⟨by simp [escRun, pendingInput, replaceEscSpace], ?_, ?_⟩
      · exact (icAfter_nil case ic).symm
      · exact (nzAfter_nil case norm nz).symm
  | cons c cs ih =>
    intro out saw ic nz
    rw [escRun_cons]
    cases saw with
    | true =>
      by_cases h32 : c = 32
      · subst h32
        rw [escStep_saw_space]
        obtain ⟨i1, i2, i3⟩ := ih (32 :: out) false ic nz
        rw [i1, i2, i3]
        simp only [pendingInput, if_true, Bool.false_eq_true, if_false, replaceEscSpace_bs_space, List.reverse_cons,
          List.append_assoc, List.singleton_append, List.map_cons, sp.1]
        exact ⟨by simp, (icAfter_cons_skip case sp.2.1 _ ic).symm, (nzAfter_cons_skip case norm sp.2.2 _ nz).symm⟩
      · by_cases h92 : c = 92
        · subst h92
          rw [escStep_saw_bs]
          obtain ⟨i1, i2, i3⟩ := ih (92 :: out) true ic nz
          rw [i1, i2, i3]
          simp only [pendingInput, if_true, replaceEscSpace_bs_ne 92 cs (by decide), List.reverse_cons, List.append_assoc,
            List.singleton_append, List.map_cons, bs.1]
          exact ⟨by simp, (icAfter_cons_skip case bs.2.1 _ ic).symm, (nzAfter_cons_skip case norm bs.2.2 _ nz).symm⟩
        · rw [escStep_saw_other case norm out ic nz c h32 h92]
          obtain ⟨i1, i2, i3⟩ := ih (caseMap case c :: 92 :: out) false (icAfter case [c] ic) (nzAfter case norm [c] nz)
          rw [i1, i2, i3]
          simp only [pendingInput, if_true, Bool.false_eq_true, if_false, replaceEscSpace_bs_ne c cs h32,
            replaceEscSpace_cons_ne c cs h92, List.reverse_cons, List.append_assoc, List.singleton_append, List.map_cons,
            bs.1]
          exact ⟨by simp, by rw [icAfter_cons_skip case bs.2.1]; exact (icAfter_cons case c _ ic).symm,
            by rw [nzAfter_cons_skip case norm bs.2.2]; exact (nzAfter_cons case norm c _ nz).symm⟩
    | false =>
      by_cases h92 : c = 92
      · subst h92
        rw [escStep_nosaw_bs]
        obtain ⟨i1, i2, i3⟩ := ih out true ic nz
        rw [i1, i2, i3]
        simp only [pendingInput, if_true, Bool.false_eq_true, if_false]
        exact ⟨trivial, trivial, trivial⟩
      · rw [escStep_nosaw_other case norm out ic nz c h92]
        obtain ⟨i1, i2, i3⟩ := ih (caseMap case c :: out) false (icAfter case [c] ic) (nzAfter case norm [c] nz)
        rw [i1, i2, i3]
        simp only [pendingInput, Bool.false_eq_true, if_false, replaceEscSpace_cons_ne c cs h92, List.reverse_cons,
          List.append_assoc, List.singleton_append, List.map_cons]
        exact ⟨by simp, (icAfter_cons case c _ ic).symm, (nzAfter_cons case norm c _ nz).symm⟩

theorem noEsc_spec (case : CaseMatching) (norm : Normalization) : ∀ (cs : List Nat) (out : List Nat) (saw ic nz : Bool),
    (cs.foldl (noEscStep case norm) ⟨out, saw, ic, nz⟩).out.reverse = out.reverse ++ cs.map (caseMap case) ∧
    (cs.foldl (noEscStep case norm) ⟨out, saw, ic, nz⟩).ic = icAfter case cs ic ∧
    (cs.foldl (noEscStep case norm) ⟨out, saw, ic, nz⟩).nz = nzAfter case norm cs nz := by
  intro cs
  induction cs with
  | nil =>
    intro out saw ic nz
    exact ⟨by simp, by simp [icAfter_nil], by simp [nzAfter_nil]⟩
  | cons c cs ih =>
    intro out saw ic nz
    simp only [List.foldl_cons]
    have hstep : noEscStep case norm ⟨out, saw, ic, nz⟩ c =
        ⟨caseMap case c :: out, saw, icAfter case [c] ic, nzAfter case norm [c] nz⟩ := by
      simp [noEscStep, foldChar_eq]
    rw [hstep]
    obtain ⟨i1, i2, i3⟩ := ih (caseMap case c :: out) saw (icAfter case [c] ic) (nzAfter case norm [c] nz)
    rw [i1, i2, i3]
    simp only [List.reverse_cons, List.append_assoc, List.singleton_append, List.map_cons]
    exact ⟨by simp, (icAfter_cons case c _ ic).symm, (nzAfter_cons case norm c _ nz).symm⟩

theorem icAfter_init (case : CaseMatching) (l : List Nat) :
    icAfter case l (decide (case ≠ .respect)) = icSpec case l := by
  cases case <;> simp [icAfter, icSpec]

theorem nzAfter_init (case : CaseMatching) (norm : Normalization) (l : List Nat) :
    nzAfter case norm l (decide (norm = .smart)) = nzSpec case norm l := by
  cases norm <;> simp [nzAfter, nzSpec]

theorem asciiLower_eq (c : Nat) (h : c < 128) : asciiLower c = toLower c := by
  rw [C16_fold_ascii c h]; rfl

theorem map_caseMap_of_ne_ignore {case : CaseMatching} (h : case ≠ .ignore) (l : List Nat) : l.map (caseMap case) = l := by
  cases case with
  | ignore => exact absurd rfl h
  | respect => exact List.map_id l
  | smart => exact List.map_id l

theorem map_caseMap_ignore (l : List Nat) : l.map (caseMap .ignore) = l.map toLower := rfl

theorem any_upper_ascii : ∀ (l : List Nat), (∀ c ∈ l, c < 128) →
    (l.any fun b => decide (65 ≤ b) && decide (b ≤ 90)) = l.any isUpper := by
  intro l
  induction l with
  | nil => intro _; rfl
  | cons c t ih =>
    intro h
    simp only [List.any_cons]
    rw [ih (fun d hd => h d (by simp [hd])), isUpper_ascii c (h c (by simp))]
    simp [Bool.decide_and]

theorem all_latin_ascii (case : CaseMatching) : ∀ (l : List Nat), (∀ c ∈ l, c < 128) →
    l.all (fun c => decide (normalizeLatin (caseMap case c) = caseMap case c)) = true := by
  intro l h
  simp only [List.all_eq_true, decide_eq_true_eq]
  intro c hc
  have hc' := h c hc
  have hlt : caseMap case c < 128 := by
    cases case with
    | respect => exact hc'
    | smart => exact hc'
    | ignore =>
      show toLower c < 128
      rw [C16_fold_ascii c hc']
      split <;> omega
  exact C16_latin_ascii _ hlt

/-- **one grammar**: whatever the characters, `new_inner` builds `atomSpec` from them — from the bytes on the ASCII path,
    from the first code points of the grapheme clusters on the other (on the ASCII path the `normalize` flag is simply
    "normalization requested": no ASCII character is changed by it, `all_latin_ascii`) -/
theorem C14_one_grammar (seg : Seg) (needle : List Nat) (case : CaseMatching) (norm : Normalization) (kind : AtomKind) (escapeWs appendDollar : Bool) :
    newInner seg needle case norm kind escapeWs appendDollar =
      if needle.all (· < 128) then
        { atomSpec .ascii needle case norm kind escapeWs appendDollar with normalize := decide (norm = .smart) }
      else atomSpec .unicode ((cutClusters needle (seg needle)).map projCluster) case norm kind escapeWs appendDollar := by
  unfold newInner
  by_cases hasc : needle.all (· < 128) = true
  · simp only [hasc, if_true]
    have hlt : ∀ c ∈ needle, c < 128 := by simpa using hasc
    have hl : ∀ c ∈ (if escapeWs = true then replaceEscSpace needle else needle), c < 128 := by
      split
      · exact fun c hc => hlt c ((replaceEscSpace_sublist needle).subset hc)
      · exact hlt
    unfold atomSpec
    simp only
    generalize (if escapeWs = true then replaceEscSpace needle else needle) = l at hl
    have hmap : l.map asciiLower = l.map toLower := List.map_congr_left (fun c hc => asciiLower_eq c (hl c hc))
    have hup := any_upper_ascii l hl
    cases case <;> cases appendDollar <;>
      simp [map_caseMap_of_ne_ignore, map_caseMap_ignore, icSpec, hmap, hup]
  · simp only [hasc, Bool.false_eq_true, if_false]
    unfold atomSpec
    generalize (cutClusters needle (seg needle)).map projCluster = cs
    cases escapeWs with
    | true =>
      simp only [if_true]
      obtain ⟨e1, e2, e3⟩ := escRun_spec case norm cs [] false (decide (case ≠ .respect)) (decide (norm = .smart))
      unfold escRun at e1 e2 e3
      simp only [pendingInput, Bool.false_eq_true, if_false, List.reverse_nil, List.nil_append] at e1 e2 e3
      simp only [e1, e2, e3, icAfter_init, nzAfter_init]
      cases appendDollar <;> simp
    | false =>
      simp only [Bool.false_eq_true, if_false]
      obtain ⟨e1, e2, e3⟩ := noEsc_spec case norm cs [] false (decide (case ≠ .respect)) (decide (norm = .smart))
      simp only [List.reverse_nil, List.nil_append] at e1
      simp only [e1, e2, e3, icAfter_init, nzAfter_init]
      cases appendDollar <;> simp

/-- the `normalize` flag of the ASCII path agrees with the rule "no character that normalization would change" whenever
    normalization is requested -/
theorem C14_ascii_normalize_flag (case : CaseMatching) (cs : List Nat) (h : ∀ c ∈ cs, c < 128) :
    nzSpec case .smart cs = true := by
  unfold nzSpec; exact all_latin_ascii case cs h

/-- the characters `new_inner` sees on the non-ASCII path -/
def projChars (seg : Seg) (u : List Nat) : List Nat := (cutClusters u (seg u)).map projCluster

/-- what the round trip needs of the segmentation of a non-ASCII text `t` (facts about `unicode-segmentation`, inputs of
    the model): escaping spaces does not move cluster boundaries — the inserted backslashes are clusters of their own —,
    a final `$` is a cluster of its own, and a non-empty text has a cluster.  (They fail for exotic texts, e.g. a Prepend
    character directly in front of a space: there the two constructions genuinely differ.) -/
structure SegLit (seg : Seg) (t : List Nat) : Prop where
  esc : ∀ u, (u = t.dropLast ∨ u = t) → projChars seg (escSpaces u) = escSpaces (projChars seg u)
  dollar : t.getLast? = some 36 → projChars seg (t.dropLast ++ [36]) = projChars seg t.dropLast ++ [36]
  nonempty : projChars seg t ≠ []

theorem newInner_unicode (seg : Seg) (u : List Nat) (hu : u.all (· < 128) = false) (case : CaseMatching)
    (norm : Normalization) (kind : AtomKind) (esc ad : Bool) :
    newInner seg u case norm kind esc ad = atomSpec .unicode (projChars seg u) case norm kind esc ad := by
  rw [C14_one_grammar, hu]
  rfl

theorem atomSpec_escSpaces (rep : Rep) (cs : List Nat) (case : CaseMatching) (norm : Normalization) (kind : AtomKind)
    (ad : Bool) :
    atomSpec rep (escSpaces cs) case norm kind true ad = atomSpec rep cs case norm kind false ad := by
  simp only [atomSpec, if_true, replaceEscSpace_escSpaces, Bool.false_eq_true, if_false]

theorem atomSpec_dollar (rep : Rep) (cs : List Nat) (case : CaseMatching) (norm : Normalization) (kind : AtomKind) :
    atomSpec rep cs case norm kind false true = atomSpec rep (cs ++ [36]) case norm kind false false := by
  have hd := plain_ascii case (c := 36) (by omega) (by omega)
  have hic : icSpec case (cs ++ [36]) = icSpec case cs := by
    cases case <;> simp [icSpec, hd.2.1]
  have hnz : nzSpec case norm (cs ++ [36]) = nzSpec case norm cs := by
    cases norm <;> simp [nzSpec, hd.2.2]
  simp only [atomSpec, Bool.false_eq_true, if_false, if_true, List.map_append, List.map_cons, List.map_nil, hd.1,
    List.append_nil, hic, hnz]

theorem newInner_escaped_unicode (seg : Seg) (u : List Nat) (hu : u.all (· < 128) = false)
    (hesc : projChars seg (escSpaces u) = escSpaces (projChars seg u)) (case : CaseMatching) (norm : Normalization)
    (kind : AtomKind) (ad : Bool) :
    newInner seg (escSpaces u) case norm kind true ad = newInner seg u case norm kind false ad := by
  rw [newInner_unicode seg _ ((all_escSpaces u).trans hu), newInner_unicode seg u hu, hesc, atomSpec_escSpaces]

theorem newInner_dollar_unicode (seg : Seg) (u : List Nat) (hu : u.all (· < 128) = false)
    (hd : projChars seg (u ++ [36]) = projChars seg u ++ [36]) (case : CaseMatching) (norm : Normalization)
    (kind : AtomKind) :
    newInner seg u case norm kind false true = newInner seg (u ++ [36]) case norm kind false false := by
  have h2 : (u ++ [36]).all (· < 128) = false := by rw [List.all_append, hu, Bool.false_and]
  rw [newInner_unicode seg u hu, newInner_unicode seg _ h2, hd, atomSpec_dollar]

/-- **the literal round trip for every text**: parsing the escaped form of a literal text yields exactly one positive fuzzy
    atom, the atom built from that text itself — ASCII or not (for non-ASCII text under the segmentation facts `SegLit`) -/
theorem C14_literal_roundtrip (seg : Seg) (t : List Nat) (he : Escapable t)
    (hseg : t.all (· < 128) = false → SegLit seg t) (case : CaseMatching) (norm : Normalization) :
    parsePattern seg (escape t) case norm = [newInner seg t case norm .fuzzy false false] := by
  by_cases hasc : t.all (· < 128) = true
  · exact C14_literal_roundtrip_ascii seg t he (by simpa using hasc) case norm
  · have hna : t.all (· < 128) = false := by simpa using hasc
    have sl := hseg hna
    refine literal_roundtrip_of seg t he case norm ?_ ?_
    · by_cases hl : t.getLast? = some 36
      · have hcat := dropLast_append_of_getLast? hl
        have hdrop : t.dropLast.all (· < 128) = false := by
          rw [← hcat] at hna
          simpa [List.all_append] using hna
        rw [if_pos hl, decide_eq_true hl, newInner_escaped_unicode seg _ hdrop (sl.esc _ (Or.inl rfl)),
          newInner_dollar_unicode seg _ hdrop (sl.dollar hl), hcat]
      · rw [if_neg hl, decide_eq_false hl, newInner_escaped_unicode seg _ hna (sl.esc _ (Or.inr rfl))]
    · rw [newInner_unicode seg t hna]
      cases hm : projChars seg t with
      | nil => exact absurd hm sl.nonempty
      | cons a r => rfl

/-- the hypotheses can be met by a non-ASCII text: `é b` with the obvious segmentation (every code point its own cluster) -/
example : Escapable [233, 32, 98] ∧ SegLit (fun l => l.map (fun _ => 1)) [233, 32, 98] ∧
    escape [233, 32, 98] = [233, 92, 32, 98] ∧
    (parsePattern (fun l => l.map (fun _ => 1)) (escape [233, 32, 98]) .respect .never).map (fun a => (a.negative, a.kind, a.needle))
      = [(false, .fuzzy, [233, 32, 98])] := by
  refine ⟨⟨by decide, by decide, by intro m r h; cases h⟩, ⟨?_, by decide, by decide⟩, by decide, by decide⟩
  intro u hu
  rcases hu with rfl | rfl <;> decide

end NucleoVerif
