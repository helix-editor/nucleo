import NucleoVerif.Props.C13
import NucleoVerif.Props.C20
/-! # C13 (companion file) — outside a tick, a run in flight always finds the flag armed

The property is false as stated (finding K2: a run can read `should_notify` inside the window in which a tick has
cleared the flag and not yet re-armed it).  For every history: whenever a run is in flight between ticks, the flag is
armed — so a run that reads it while no tick is executing calls `notify`, unless it was cancelled (and then the
cancelling tick has spawned its successor).  With `C13_lost_wakeup_witness` this confines the defect to that window. -/
namespace NucleoVerif.Nu

theorem tick_pending_running (n : Nucleo) (o : TickOracle) (h : (n.tick o).1.pending.isSome = true) :
    (n.tick o).2.running = true := by
  obtain ⟨m, o', e1, e2⟩ := n.tick_deciding o
  rw [e2]
  exact (tickPlain_running m o').1 (e1 ▸ h)

/-- C13, what holds: between ticks a run in flight finds the flag armed — after every history of injector(), clone,
    drop, reparse, restart(true|false) and tick events, with arbitrary lock outcomes and run effects -/
theorem C13_armed_between_ticks (evs : List Ev) :
    (evs.foldl applyEv Nucleo.new).pending.isSome = true → (evs.foldl applyEv Nucleo.new).shouldNotify = true := by
  refine history_induction (I := fun n => n.pending.isSome = true → n.shouldNotify = true) (ok := fun _ _ => True)
    (fun n e _ ih _ => ⟨?_, trivial⟩) evs Nucleo.new nofun trivial
  rcases applyEv_eq n e with ⟨l, e'⟩ | ⟨c, rfl⟩ | ⟨p, s, rfl⟩ | ⟨o, rfl⟩
  · rw [e']; exact ih
  · exact ih
  · exact ih
  · exact fun h => C13_partial n o (tick_pending_running n o h)

theorem run_notifies_iff (score : Nat → Item → Option Nat) (len : Item → Nat) (w : Worker) (st : PStatus) (cl pe : Bool) (o : Obs) :
    (w.run score len st cl pe o).2 = true ↔ o.shouldNotify = true ∧ (w.run score len st cl pe o).1.wasCanceled = false := by
  rw [(run_control score len w st cl pe o).2.2.2.2, Bool.and_eq_true, Bool.not_eq_true', And.comm]

/-- after every history, a run in flight that reads `should_notify` while no tick is executing and is not cancelled does
    call `notify` -/
theorem C13_notified_outside_ticks (score : Nat → Item → Option Nat) (len : Item → Nat) (evs : List Ev) (p : Pending) (pe : Bool) (o : Obs)
    (hp : (evs.foldl applyEv Nucleo.new).pending = some p)
    (hread : o.shouldNotify = (evs.foldl applyEv Nucleo.new).shouldNotify)
    (hnc : ((evs.foldl applyEv Nucleo.new).worker.run score len p.status p.cleared pe o).1.wasCanceled = false) :
    ((evs.foldl applyEv Nucleo.new).worker.run score len p.status p.cleared pe o).2 = true := by
  rw [run_notifies_iff]
  exact ⟨by rw [hread]; exact C13_armed_between_ticks evs (by rw [hp]; rfl), hnc⟩

/-- non-vacuity: a first tick whose second lock attempt times out leaves a run in flight -/
example : ([Ev.tick { count1 := 0, count2 := 0, lock1 := false, lock2 := false, run0 := id, run1 := id }].foldl applyEv Nucleo.new).pending.isSome = true := by
  decide

end NucleoVerif.Nu
