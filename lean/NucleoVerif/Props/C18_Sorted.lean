import NucleoVerif.Lemmas.SortRec
import NucleoVerif.Lemmas.SortPivot
import NucleoVerif.Lemmas.SortHeap
import NucleoVerif.Lemmas.SortPartEq
import NucleoVerif.Lemmas.SortPartition
import NucleoVerif.Props.C18
/-! # C18, sortedness — the cancellable parallel sort leaves the slice in non-decreasing order

For every strict weak order, every input of any length and every cancel oracle, the model of `src/par_sort.rs`
(`Model/ParSort.lean`) returns a slice in non-decreasing order whenever it reports "not cancelled".  Each routine has a
Hoare-style contract (`Lemmas/Sort*.lean`: verification conditions generated by `mvcgen` from the model's own `do` blocks,
closed by hand); `recurseLoop_spec` composes them through the recursion and shows its fuel sufficient. -/
open Std.Do
namespace NucleoVerif.PS
set_option mvcgen.warning false
variable {α : Type} [Inhabited α]

theorem parQuicksortM_spec (lt : α → α → Bool) (h : SWO lt) (cancelAt : Nat → Bool) (a : Array α) :
   ⦃fun s => ⌜s.val = a⌝⦄ (parQuicksortM (a0 := a) lt cancelAt a.size)
   ⦃⇓ c s => ⌜c = false → Sorted lt 0 a.size s.val⌝⦄ := by
  have hrec : RecSpec (a0 := a) lt (recurseLoop lt cancelAt (a.size + 2)) (a.size + 2) :=
    recurseLoop_spec lt h (partition_spec lt) (partitionEqual_spec lt h) (choosePivot_spec lt) (partialInsertionSort_spec lt h)
      breakPatterns_spec (heapsort_spec lt h) cancelAt _
  unfold RecSpec at hrec
  mvcgen -trivial -leave [parQuicksortM, hrec]
  case vc1 => -- the flag is raised at the start: `true` is returned
    exact SPred.pure_intro Bool.noConfusion
  case vc2 => -- the precondition of `recurseLoop`: the fuel exceeds the length, there is no predecessor pivot
    rename_i s hpre
    exact SPred.pure_intro
      ⟨rfl, Nat.lt_succ_of_lt (Nat.lt_succ_self _), Nat.le_of_eq (congrArg Array.size hpre).symm, fun p hp => nomatch hp⟩
  case vc3 => -- after it
    rename_i s0 hpre r s hpost
    exact SPred.pure_intro hpost.2.1

/-- C18, order: under a strict weak order, a sort that reports "not cancelled" leaves the slice in non-decreasing
    order: no later element is smaller than an earlier one.  Every length, every arrangement, every cancel oracle. -/
theorem C18_sorted (lt : α → α → Bool) (h : SWO lt) (cancelAt : Nat → Bool) (a : Array α)
    (hnc : (parQuicksort lt cancelAt a).2 = false) :
    ∀ i j, i < j → j < a.size → lt ((parQuicksort lt cancelAt a).1.getD j default) ((parQuicksort lt cancelAt a).1.getD i default) = false := by
  have := (triple_iff _ _ _).1 (parQuicksortM_spec lt h cancelAt a) ⟨a, Array.Perm.refl a⟩ rfl
  intro i j hij hj
  exact this hnc i j (Nat.zero_le _) hij hj

/-- C18: with a cancel flag that is never raised the sort reports "not cancelled" and returns a sorted permutation
    of its input -/
theorem C18_sorted_permutation (lt : α → α → Bool) (h : SWO lt) (a : Array α) :
    (parQuicksort lt (fun _ => false) a).2 = false ∧ (parQuicksort lt (fun _ => false) a).1.Perm a ∧
    ∀ i j, i < j → j < a.size →
      lt ((parQuicksort lt (fun _ => false) a).1.getD j default) ((parQuicksort lt (fun _ => false) a).1.getD i default) = false :=
  ⟨C18_not_cancelled lt a, C18_perm lt _ a, C18_sorted lt h _ a (C18_not_cancelled lt a)⟩

/-- the hypotheses are satisfiable and the statement is not vacuous: `<` on `Nat` is a strict weak order, and a concrete
    slice of 30 elements (long enough for the quicksort path) comes out sorted -/
example : SWO (fun (x y : Nat) => decide (x < y)) :=
  ⟨fun x y hxy => by simp at *; omega, fun x y z h1 h2 => by simp at *; omega⟩

example : (parQuicksort (fun (x y : Nat) => decide (x < y)) (fun _ => false)
    #[5, 3, 9, 1, 7, 2, 8, 6, 4, 0, 15, 13, 19, 11, 17, 12, 18, 16, 14, 10, 25, 23, 29, 21, 27, 22, 28, 26, 24, 20]).1 =
    #[0, 1, 2, 3, 4, 5, 6, 7, 8, 9, 10, 11, 12, 13, 14, 15, 16, 17, 18, 19, 20, 21, 22, 23, 24, 25, 26, 27, 28, 29] := by
  decide +kernel

end NucleoVerif.PS
