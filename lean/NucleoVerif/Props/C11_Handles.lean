import NucleoVerif.Props.C20
/-! # C11 (companion file) — over every history, a dropped stream stays dropped and no handle dangles

`Props/C11.lean` proves the per-vector fact (every initialised slot is dropped exactly once when the vector is dropped).
When a vector is dropped is decided by the `Arc` around it: `Nucleo.strongCount n s` counts the handles on stream `s`.
For every history: a stream some handle points at has been created and has a positive count, and no event creates a
handle to a stream nobody holds — so a stream whose count reached zero keeps count zero: no second drop, no access after
the drop.  The assumption `Ev.ok` is what `Worker::run` does; the correspondence check replays the same histories on the
real `Nucleo<Tracked>` and compares the drop log. -/
namespace NucleoVerif.Nu

/-- some handle reaches stream `s`: the matcher's own (`items`), the worker's, the snapshot's, or an injector's -/
def Reach (n : Nucleo) (s : Nat) : Prop :=
  n.cur = s ∨ n.worker.stream = s ∨ n.snapshot.stream = s ∨ ∃ h, (h, s) ∈ n.injectors

theorem strongCount_zero_iff (n : Nucleo) (s : Nat) : n.strongCount s = 0 ↔ ¬ Reach n s := by
  have hinj : (n.injectors.filter (fun p => p.2 = s)).length = 0 ↔ ¬ ∃ h, (h, s) ∈ n.injectors := by
    rw [List.length_eq_zero_iff, List.filter_eq_nil_iff]
    constructor
    · rintro h ⟨hh, e⟩
      exact h _ e (decide_eq_true rfl)
    · intro h p hp hps
      exact h ⟨p.1, (of_decide_eq_true hps : p.2 = s) ▸ hp⟩
  have hite : ∀ (p : Prop) [Decidable p], (if p then 1 else 0) = 0 ↔ ¬ p := by
    intro p _
    split <;> simp [*]
  unfold Nucleo.strongCount Reach
  -- the count is a sum of four terms, one per disjunct of `Reach`
  rw [Nat.add_eq_zero_iff, Nat.add_eq_zero_iff, Nat.add_eq_zero_iff, hite, hite, hite, hinj,
    not_or, not_or, not_or, and_assoc, and_assoc]

theorem tickInnerLocked_inj (m : Nucleo) (c : Bool) (st : PStatus) (k : Nat) : (tickInnerLocked m c st k).1.injectors = m.injectors :=
  (tickInnerLocked_frame m c st k).2.2.2.2.1

theorem Reach.of_inj {n : Nucleo} {s h : Nat} (e : (h, s) ∈ n.injectors) : Reach n s := Or.inr (Or.inr (Or.inr ⟨h, e⟩))

/-- a state whose handles all point where handles of `n` point reaches no stream `n` does not reach -/
theorem Reach.mono {n n' : Nucleo} {s : Nat} (hr : Reach n' s) (hc : n'.cur = n.cur)
    (hi : ∀ h, (h, s) ∈ n'.injectors → Reach n s)
    (hw : n'.worker.stream = n.cur ∨ n'.worker.stream = n.worker.stream)
    (hs : n'.snapshot.stream = n.snapshot.stream ∨ n'.snapshot.stream = n.worker.stream) : Reach n s := by
  rcases hr with e | e | e | ⟨hh, e⟩
  · exact Or.inl (hc ▸ e)
  · rcases hw with w | w
    · exact Or.inl (w ▸ e)
    · exact Or.inr (Or.inl (w ▸ e))
  · rcases hs with w | w
    · exact Or.inr (Or.inr (Or.inl (w ▸ e)))
    · exact Or.inr (Or.inl (w ▸ e))
  · exact hi hh e

theorem joinRun_snapAfter_stream (n : Nucleo) {run : Worker → Worker} (hk : KeepsStream run) :
    (n.joinRun run).snapAfter.stream = n.snapshot.stream ∨ (n.joinRun run).snapAfter.stream = n.worker.stream := by
  unfold Nucleo.snapAfter
  split
  · exact Or.inr (joinRun_stream n hk)
  · exact Or.inl (by rw [Nucleo.joinRun_eq])

theorem spawned_stream (n : Nucleo) {run : Worker → Worker} (hk : KeepsStream run) :
    (if n.state.canceled then n.cur else (n.joinRun run).worker.stream) = n.cur ∨
    (if n.state.canceled then n.cur else (n.joinRun run).worker.stream) = n.worker.stream := by
  split
  · exact Or.inl rfl
  · exact Or.inr (joinRun_stream n hk)

theorem tickPlain_reach (n : Nucleo) (o : TickOracle) (h0 : KeepsStream o.run0) (s : Nat)
    (hr : Reach (n.tickPlain o).1 s) : Reach n s := by
  rcases n.tickPlain_shapes o with ⟨_, e⟩ | ⟨_, e⟩ | ⟨_, e⟩ <;> rw [e] at hr
  · exact hr
  · exact hr.mono rfl (fun _ e => .of_inj e) (spawned_stream n h0) (joinRun_snapAfter_stream n h0)
  · exact hr.mono rfl (fun _ e => .of_inj e) (Or.inr (joinRun_stream n h0)) (joinRun_snapAfter_stream n h0)

theorem tickCancelFirst_reach (n : Nucleo) (o : TickOracle) (h0 : KeepsStream o.run0) (s : Nat)
    (hr : Reach (n.tickCancelFirst o).1 s) : Reach n s := by
  rw [Nucleo.tickCancelFirst_eq] at hr
  exact hr.mono rfl (fun _ e => .of_inj e) (spawned_stream n h0) (joinRun_snapAfter_stream n h0)

theorem tick_reach (n : Nucleo) (o : TickOracle) (h0 : KeepsStream o.run0) (h1 : KeepsStream o.run1) (s : Nat)
    (hr : Reach (n.tick o).1 s) : Reach n s := by
  by_cases hc : n.tickCancels = true
  · rw [(n.tick_of_cancels o hc).1] at hr
    exact tickCancelFirst_reach ({ n with shouldNotify := false } : Nucleo) o h0 s (tickPlain_reach _ o.second h1 s hr)
  · rw [Bool.not_eq_true] at hc
    rw [Nucleo.tick_of_not_cancels n o hc] at hr
    exact tickPlain_reach ({ n with shouldNotify := false } : Nucleo) o h0 s hr

/-- no event creates a handle to a stream nobody holds: whatever is reachable afterwards was reachable before, or is the
    stream `restart` has just created -/
theorem step_reach (n : Nucleo) (e : Ev) (hok : e.ok) (s : Nat) (hr : Reach (applyEv n e) s) :
    Reach n s ∨ (s = n.nextStream ∧ ∃ c, e = .restart c) := by
  cases e with
  | inj k =>
    refine Or.inl (hr.mono rfl (fun h e => ?_) (Or.inr rfl) (Or.inl rfl))
    rcases List.mem_append.mp e with e | e
    · exact .of_inj e
    · exact Or.inl (Prod.mk.inj (List.mem_singleton.mp e)).2.symm
  | clone a b =>
    simp only [applyEv, Nucleo.cloneInjector] at hr
    split at hr
    · rename_i p hp
      refine Or.inl (hr.mono rfl (fun h e => ?_) (Or.inr rfl) (Or.inl rfl))
      rcases List.mem_append.mp e with e | e
      · exact .of_inj e
      · exact (Prod.mk.inj (List.mem_singleton.mp e)).2 ▸ .of_inj (List.mem_of_find?_eq_some hp)
    · exact Or.inl hr
  | drop k => exact Or.inl (hr.mono rfl (fun h e => .of_inj (List.mem_filter.mp e).1) (Or.inr rfl) (Or.inl rfl))
  | restart c =>
    rcases hr with h | h | h | ⟨hh, h⟩
    · exact Or.inr ⟨h.symm, c, rfl⟩
    · exact Or.inl (Or.inr (Or.inl h))
    · simp only [applyEv, Nucleo.restart] at h
      split at h
      · exact Or.inr ⟨h.symm, c, rfl⟩
      · exact Or.inl (Or.inr (Or.inr (Or.inl h)))
    · exact Or.inl (.of_inj h)
  | reparse p st => exact Or.inl hr
  | tick o => exact Or.inl (tick_reach n o hok.1 hok.2 s hr)

/-- every handle points at a stream that has been created -/
def WF11 (n : Nucleo) : Prop := ∀ s, Reach n s → s < n.nextStream

theorem nextStream_mono (n : Nucleo) (e : Ev) : n.nextStream ≤ (applyEv n e).nextStream := by
  rcases applyEv_eq n e with ⟨l, e'⟩ | ⟨c, rfl⟩ | ⟨p, s, rfl⟩ | ⟨o, rfl⟩
  · rw [e']; exact Nat.le_refl _
  · exact Nat.le_succ _
  · exact Nat.le_refl _
  · exact Nat.le_of_eq (tick_frame n o).2.1.symm

theorem WF11.new : WF11 Nucleo.new := by
  intro s hr
  rcases hr with h | h | h | ⟨_, h⟩
  · exact h ▸ Nat.zero_lt_one
  · exact h ▸ Nat.zero_lt_one
  · exact h ▸ Nat.zero_lt_one
  · exact absurd h List.not_mem_nil

theorem WF11.step (n : Nucleo) (e : Ev) (hok : e.ok) (h : WF11 n) : WF11 (applyEv n e) := by
  intro s hr
  rcases step_reach n e hok s hr with h' | ⟨h', c, rfl⟩
  · exact Nat.lt_of_lt_of_le (h s h') (nextStream_mono n e)
  · exact h' ▸ Nat.lt_succ_self n.nextStream

theorem WF11.history (evs : List Ev) (hok : ∀ e ∈ evs, e.ok) : WF11 (evs.foldl applyEv Nucleo.new) :=
  history_induction_ok (fun n e h hok => WF11.step n e hok h) evs Nucleo.new WF11.new hok

theorem dead_stays_dead_step (n : Nucleo) (e : Ev) (hok : e.ok) (s : Nat) (hs : s < n.nextStream) (hd : n.strongCount s = 0) :
    (applyEv n e).strongCount s = 0 := by
  rw [strongCount_zero_iff] at hd ⊢
  intro hr
  rcases step_reach n e hok s hr with h' | ⟨h', _⟩
  · exact hd h'
  · omega

/-- C11 over histories: items are dropped once, and only once nothing can reach them.  A created stream whose reference
    count is zero (in the implementation: the `Arc<boxcar::Vec<T>>` has been freed and each of its items dropped,
    `C11_vec_drop_once`, at that moment and not before, `strongCount_zero_iff`) has count zero after every continuation: no
    handle ever points at it again, so there is no second drop and no access after the drop -/
theorem C11_dropped_stream_stays_dropped (evs more : List Ev) (hok : ∀ e ∈ evs ++ more, e.ok) (s : Nat)
    (hs : s < (evs.foldl applyEv Nucleo.new).nextStream) (hd : (evs.foldl applyEv Nucleo.new).strongCount s = 0) :
    ((evs ++ more).foldl applyEv Nucleo.new).strongCount s = 0 := by
  rw [List.foldl_append]
  exact (history_induction_ok (I := fun n => s < n.nextStream ∧ n.strongCount s = 0)
    (fun n e h hok => ⟨Nat.lt_of_lt_of_le h.1 (nextStream_mono n e), dead_stays_dead_step n e hok s h.1 h.2⟩)
    more _ ⟨hs, hd⟩ (fun e he => hok e (List.mem_append_right _ he))).2

/-- C11 over histories, nothing dangles: every handle that exists points at a created stream with a positive count -/
theorem C11_handles_point_at_live_streams (evs : List Ev) (hok : ∀ e ∈ evs, e.ok) (s : Nat)
    (hr : Reach (evs.foldl applyEv Nucleo.new) s) :
    s < (evs.foldl applyEv Nucleo.new).nextStream ∧ 0 < (evs.foldl applyEv Nucleo.new).strongCount s := by
  refine ⟨WF11.history evs hok s hr, ?_⟩
  rcases Nat.eq_zero_or_pos ((evs.foldl applyEv Nucleo.new).strongCount s) with h | h
  · exact absurd hr ((strongCount_zero_iff _ _).mp h)
  · exact h

/-- non-vacuity: after `restart(true)` and one tick that gets both locks, stream 0 is dead and stream 1 is live -/
example : let n := ([Ev.restart true, Ev.tick { count1 := 0, count2 := 0, lock1 := true, lock2 := true, run0 := id, run1 := id }].foldl applyEv Nucleo.new)
    n.strongCount 0 = 0 ∧ 0 < n.nextStream ∧ n.strongCount 1 > 0 := by decide

end NucleoVerif.Nu
