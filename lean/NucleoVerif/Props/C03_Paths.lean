import NucleoVerif.Props.C03_Entry
import NucleoVerif.Props.C02_Substring
import NucleoVerif.Props.C01
/-! # C03 — the score is the scheme on the reported alignment: substring, greedy, and every path of `fuzzy_match`

The remaining call sites of `calculate_score` pass tight windows: the substring matchers (an occurrence of the needle),
the greedy matcher (`C02_Greedy`), and so every path of `fuzzy_match`.  Needles of up to 2519 characters, prefix
preference off, bonus values at most 10 (all presets). -/
namespace NucleoVerif
open Gen Spec Sub DP

theorem C03_substring_ascii_score (cfg : Cfg) (ext : Ext) (h : List Nat) (n0 : Nat) (ns : List Nat)
    (hb : 8 ≤ maxBonus cfg) (hw : cfg.white ≤ 10) (hdl : cfg.delim ≤ 10) (hpp : cfg.preferPrefix = false)
    (hasc : ∀ x ∈ h, x < 128) (hn : ∀ c ∈ n0 :: ns, normAscii cfg c = c)
    (hlen : (n0 :: ns).length ≤ h.length) (hshort : (n0 :: ns).length ≤ 2519) (sc : Nat) (idx : List Nat)
    (hres : substringAscii cfg ext h (n0 :: ns) = some (sc, idx)) : sc = alignScore cfg ext h idx := by
  obtain ⟨P, hP, hcs, _⟩ := (substringAscii_spec cfg ext h n0 ns hb hasc hn hlen).2 _ hres
  exact tight_score_pair cfg ext .ascii h n0 ns hw hdl hpp hshort sc idx ⟨_, _, occurrence_tight cfg .ascii h n0 ns P hP, hcs⟩

theorem C03_substring_unicode_score (cfg : Cfg) (ext : Ext) (nrep : Rep) (h : List Nat) (n0 n1 : Nat) (ns : List Nat)
    (hb : 8 ≤ maxBonus cfg) (hw : cfg.white ≤ 10) (hdl : cfg.delim ≤ 10) (hpp : cfg.preferPrefix = false)
    (hlen : (n0 :: n1 :: ns).length ≤ h.length) (hshort : (n0 :: n1 :: ns).length ≤ 2519) (start e : Nat)
    (hp : prefilterNonAscii cfg h (n0 :: n1 :: ns) false = some (start, e)) (sc : Nat) (idx : List Nat)
    (hres : substringNonAscii cfg ext nrep h (n0 :: n1 :: ns) start = some (sc, idx)) : sc = alignScore cfg ext h idx := by
  obtain ⟨P, hP, hcs, _⟩ := (substringNonAscii_spec cfg ext nrep h n0 n1 ns hb hlen start e hp).2 _ hres
  exact tight_score_pair cfg ext .unicode h n0 (n1 :: ns) hw hdl hpp hshort sc idx
    ⟨_, _, occurrence_tight cfg .unicode h n0 (n1 :: ns) P hP, hcs⟩

/-- the greedy matcher's score on an ASCII haystack is the scheme's value of the alignment it reports (also the greedy
    fallback of `fuzzy_match` when the scratch layout does not fit) -/
theorem C03_greedy_ascii_score (cfg : Cfg) (ext : Ext) (h : List Nat) (n0 : Nat) (ns : List Nat) (start ge e : Nat)
    (hasc : ∀ c ∈ h, c < 128) (hn : ∀ c ∈ n0 :: ns, normAscii cfg c = c)
    (hw : cfg.white ≤ 10) (hdl : cfg.delim ≤ 10) (hpp : cfg.preferPrefix = false) (hshort : (n0 :: ns).length ≤ 2519)
    (hp : prefilterAscii cfg h (n0 :: ns) true = some (start, ge, e)) (sc : Nat) (is : List Nat)
    (hres : fuzzyGreedyInner cfg ext .ascii .ascii h (n0 :: ns) start ge = some (sc, is)) :
    sc = alignScore cfg ext h is :=
  tight_score_pair cfg ext .ascii h n0 ns hw hdl hpp hshort sc is
    (fuzzyGreedyInner_tight_ascii cfg ext h n0 ns start ge (prefilterAscii_tight cfg h n0 ns true start ge e hn hp) _ hres)

theorem C03_greedy_unicode_score (cfg : Cfg) (ext : Ext) (nrep : Rep) (h : List Nat) (n0 : Nat) (ns : List Nat) (start : Nat)
    (hs : start < h.length) (h0 : norm cfg .unicode h[start] = n0)
    (hw : cfg.white ≤ 10) (hdelim : cfg.delim ≤ 10) (hpp : cfg.preferPrefix = false) (hshort : (n0 :: ns).length ≤ 2519) (sc : Nat) (is : List Nat)
    (hres : fuzzyGreedyInner cfg ext .unicode nrep h (n0 :: ns) start (start + 1) = some (sc, is)) :
    sc = alignScore cfg ext h is :=
  tight_score_pair cfg ext .unicode h n0 ns hw hdelim hpp hshort sc is
    (fuzzyGreedyInner_tight_scan cfg ext .unicode nrep h n0 ns start (fun e => nomatch e.1) hs
      (chAt_of_norm cfg .unicode h start n0 hs h0) _ hres)

/-- `fuzzy_match` / `fuzzy_indices`: whichever path is taken — contiguous shortcut, matrix, greedy fallback — the score
    is the scheme's value of the reported alignment (needle of 2 to 2519 characters, normalized; prefix preference off) -/
theorem C03_fuzzy_all_paths_ascii (cfg : Cfg) (ext : Ext) (h : List Nat) (n0 n1 : Nat) (ns : List Nat)
    (hpp : cfg.preferPrefix = false) (hw : cfg.white ≤ 10) (hdl : cfg.delim ≤ 10)
    (hasc : ∀ c ∈ h, c < 128) (hn : ∀ c ∈ n0 :: n1 :: ns, normAscii cfg c = c)
    (hlen : (n0 :: n1 :: ns).length < h.length) (hshort : (n0 :: n1 :: ns).length ≤ 2519)
    (sc : Nat) (is : List Nat) (hres : fuzzyMatch cfg ext .ascii .ascii h (n0 :: n1 :: ns) = some (sc, is)) :
    sc = alignScore cfg ext h is :=
  C03_fuzzy_score cfg ext .ascii .ascii h n0 n1 ns (fun e => nomatch e.2) (map_eq_self _ _ hn)
    hpp hw hdl hlen hshort sc is hres

theorem C03_fuzzy_all_paths_unicode (cfg : Cfg) (ext : Ext) (nrep : Rep) (h : List Nat) (n0 n1 : Nat) (ns : List Nat)
    (hpp : cfg.preferPrefix = false) (hw : cfg.white ≤ 10) (hdl : cfg.delim ≤ 10)
    (hn : (n0 :: n1 :: ns).map (norm cfg nrep) = n0 :: n1 :: ns)
    (hlen : (n0 :: n1 :: ns).length < h.length) (hshort : (n0 :: n1 :: ns).length ≤ 2519)
    (sc : Nat) (is : List Nat) (hres : fuzzyMatch cfg ext .unicode nrep h (n0 :: n1 :: ns) = some (sc, is)) :
    sc = alignScore cfg ext h is :=
  C03_fuzzy_score cfg ext .unicode nrep h n0 n1 ns (fun e => nomatch e.1) hn hpp hw hdl hlen hshort sc is hres

/-- C01, C02 and C03 in one statement: `fuzzy_match` / `fuzzy_indices` matches exactly when the needle is a subsequence
    of the normalized haystack, and then the reported indices are a valid witness whose value under the scheme is the
    returned score ((normalized) needle of 2 to 2519 characters, shorter than the haystack; prefix preference off; every
    pair of representations but ASCII haystack × code-point needle, known finding K1). -/
theorem fuzzy_match_correct (cfg : Cfg) (ext : Ext) (hrep nrep : Rep) (h : List Nat) (n0 n1 : Nat) (ns : List Nat)
    (hk1 : ¬ (hrep = .ascii ∧ nrep = .unicode)) (hn : (n0 :: n1 :: ns).map (norm cfg nrep) = n0 :: n1 :: ns)
    (hpp : cfg.preferPrefix = false) (hw : cfg.white ≤ 10) (hdl : cfg.delim ≤ 10)
    (hlen : (n0 :: n1 :: ns).length < h.length) (hshort : (n0 :: n1 :: ns).length ≤ 2519) :
    (fuzzyMatch cfg ext hrep nrep h (n0 :: n1 :: ns)).isSome = subseqB (n0 :: n1 :: ns) (normHay cfg hrep h) ∧
    ∀ sc is, fuzzyMatch cfg ext hrep nrep h (n0 :: n1 :: ns) = some (sc, is) →
      validWitnessB cfg hrep h (n0 :: n1 :: ns) is = true ∧ sc = alignScore cfg ext h is :=
  ⟨C01_decision cfg ext hrep nrep h _ hk1 hn, fun sc is hres =>
    ⟨C02_fuzzy_entry cfg ext hrep nrep h n0 n1 ns hk1 hn hlen sc is hres,
     C03_fuzzy_score cfg ext hrep nrep h n0 n1 ns hk1 hn hpp hw hdl hlen hshort sc is hres⟩⟩

theorem fuzzy_match_correct_unicode (cfg : Cfg) (ext : Ext) (nrep : Rep) (h : List Nat) (n0 n1 : Nat) (ns : List Nat)
    (hpp : cfg.preferPrefix = false) (hw : cfg.white ≤ 10) (hdl : cfg.delim ≤ 10)
    (hn : (n0 :: n1 :: ns).map (norm cfg nrep) = n0 :: n1 :: ns)
    (hlen : (n0 :: n1 :: ns).length < h.length) (hshort : (n0 :: n1 :: ns).length ≤ 2519) :
    (fuzzyMatch cfg ext .unicode nrep h (n0 :: n1 :: ns)).isSome = subseqB (n0 :: n1 :: ns) (normHay cfg .unicode h) ∧
    ∀ sc is, fuzzyMatch cfg ext .unicode nrep h (n0 :: n1 :: ns) = some (sc, is) →
      validWitnessB cfg .unicode h (n0 :: n1 :: ns) is = true ∧ sc = alignScore cfg ext h is :=
  fuzzy_match_correct cfg ext .unicode nrep h n0 n1 ns (fun e => nomatch e.1) hn hpp hw hdl hlen hshort

theorem fuzzy_match_correct_ascii (cfg : Cfg) (ext : Ext) (h : List Nat) (n0 n1 : Nat) (ns : List Nat)
    (hpp : cfg.preferPrefix = false) (hw : cfg.white ≤ 10) (hdl : cfg.delim ≤ 10)
    (hasc : ∀ c ∈ h, c < 128) (hn : ∀ c ∈ n0 :: n1 :: ns, normAscii cfg c = c)
    (hlen : (n0 :: n1 :: ns).length < h.length) (hshort : (n0 :: n1 :: ns).length ≤ 2519) :
    (fuzzyMatch cfg ext .ascii .ascii h (n0 :: n1 :: ns)).isSome = subseqB (n0 :: n1 :: ns) (normHay cfg .ascii h) ∧
    ∀ sc is, fuzzyMatch cfg ext .ascii .ascii h (n0 :: n1 :: ns) = some (sc, is) →
      validWitnessB cfg .ascii h (n0 :: n1 :: ns) is = true ∧ sc = alignScore cfg ext h is :=
  fuzzy_match_correct cfg ext .ascii .ascii h n0 n1 ns (fun e => nomatch e.2) (map_eq_self _ _ hn) hpp hw hdl hlen hshort

theorem C03_fuzzy_one_char_ascii (cfg : Cfg) (ext : Ext) (h : List Nat) (c : Nat) (hb : 8 ≤ maxBonus cfg)
    (hasc : ∀ x ∈ h, x < 128) (hc : normAscii cfg c = c) (hlen : 1 < h.length)
    (sc : Nat) (is : List Nat) (hres : fuzzyMatch cfg ext .ascii .ascii h [c] = some (sc, is)) :
    sc = alignScore cfg ext h is := by
  obtain ⟨p, rfl, _, hs⟩ := fuzzyMatch_one_ascii cfg ext h c hb hasc hc hlen sc is hres
  exact hs.symm

theorem C03_fuzzy_one_char_unicode (cfg : Cfg) (ext : Ext) (nrep : Rep) (h : List Nat) (c : Nat) (hb : 8 ≤ maxBonus cfg)
    (hlen : 1 < h.length) (sc : Nat) (is : List Nat) (hres : fuzzyMatch cfg ext .unicode nrep h [c] = some (sc, is)) :
    sc = alignScore cfg ext h is := by
  obtain ⟨p, rfl, _, hs⟩ := fuzzyMatch_one_unicode cfg ext nrep h c hb hlen sc is hres
  exact hs.symm

end NucleoVerif
