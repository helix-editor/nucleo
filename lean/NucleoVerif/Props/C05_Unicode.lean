import NucleoVerif.Props.C05
import NucleoVerif.Props.C01
/-! # C05 — substring matching on code-point haystacks: `substring_match_non_ascii` behind the non-ASCII prefilter -/
namespace NucleoVerif
open Gen Spec Sub

/-- the acceptance test of `substring_match_non_ascii` at one position -/
def subAccU (cfg : Cfg) (n : List Nat) (limit : Nat) (pos : Nat) (s : List Nat) : Bool :=
  (decide (pos < limit) && decide (cnormChar cfg (s.headD 0) = n.headD 0)) &&
    ((s.tail.take (n.length - 1)).map (normChar cfg) == n.drop 1)

theorem substringNonAscii_go_eq (cfg : Cfg) (ext : Ext) (n : List Nat) (limit : Nat) :
    ∀ (xs : List Nat) (b : Best) (prev : CharClass) (pos : Nat),
      substringNonAscii.go cfg ext n limit b prev pos xs = scanS cfg (subAccU cfg n limit) (charClass cfg ext) b prev pos xs := by
  intro xs
  induction xs with
  | nil => intro _ _ _; rfl
  | cons x xs ih =>
    intro b prev pos
    rw [substringNonAscii.go, scanS, ih, Best.offer_ok, ite_and_bool]
    rfl

theorem subAccU_eq_occ (cfg : Cfg) (n0 : Nat) (ns : List Nat) (limit pos : Nat) (s : List Nat)
    (hlim : pos < limit ↔ (n0 :: ns).length ≤ s.length) :
    subAccU cfg (n0 :: ns) limit pos s = ((s.take (n0 :: ns).length).map (normChar cfg) == n0 :: ns) := by
  refine acc_eq_window (normChar cfg) s (n0 :: ns) 1 (Nat.succ_pos _) _ hlim _ _ (fun hp => ?_) (by simp only [List.drop_one])
  rw [show (n0 :: ns).take 1 = [n0] from rfl, head_window _ _ _ (by have := hlim.mp hp; rw [List.length_cons] at this; omega),
    cnormChar_eq, Bool.eq_iff_iff, decide_eq_true_eq, beq_iff_eq]
  rfl

/-- no occurrence starts where the first needle character does not occur -/
theorem occAux_skip (n0 : Nat) (ns : List Nat) : ∀ (L : List Nat) (base k : Nat), (∀ x ∈ L.take k, x ≠ n0) →
    occAux (n0 :: ns) base L = occAux (n0 :: ns) (base + k) (L.drop k) := by
  intro L
  induction L with
  | nil => intro base k _; simp [occAux]
  | cons c cs ih =>
    intro base k hk
    cases k with
    | zero => rfl
    | succ k =>
      have hc : c ≠ n0 := hk c (by simp)
      simp only [occAux, List.drop_succ_cons]
      have : ((c :: cs).take (n0 :: ns).length == n0 :: ns) = false := by
        simp only [List.length_cons, List.take_succ_cons]
        apply Bool.eq_false_iff.mpr
        intro h
        have : c :: cs.take ns.length = n0 :: ns := by simpa using h
        exact hc (List.cons.inj this).1
      rw [this]
      simp only [Bool.false_eq_true, if_false, List.nil_append]
      rw [ih (base + 1) k (fun x hx => hk x (by simp [hx]))]
      congr 1
      omega

theorem substringNonAscii_spec (cfg : Cfg) (ext : Ext) (nrep : Rep) (h : List Nat) (n0 n1 : Nat) (ns' : List Nat)
    (hb : 8 ≤ maxBonus cfg) (hlen : (n0 :: n1 :: ns').length ≤ h.length) (start e : Nat)
    (hp : prefilterNonAscii cfg h (n0 :: n1 :: ns') false = some (start, e)) :
    (substringNonAscii cfg ext nrep h (n0 :: n1 :: ns') start).isSome = !(occurrences cfg .unicode h (n0 :: n1 :: ns')).isEmpty ∧
    ∀ r, substringNonAscii cfg ext nrep h (n0 :: n1 :: ns') start = some r →
      ∃ P, P ∈ occurrences cfg .unicode h (n0 :: n1 :: ns') ∧
        r = calculateScore cfg ext .unicode h (n0 :: n1 :: ns') P (P + (n0 :: n1 :: ns').length) ∧
        r.2.head? = bestOccurrence cfg ext .unicode h (n0 :: n1 :: ns') := by
  -- `start` is the first position whose character normalizes to the first needle character: no occurrence before it
  have hfull : findIdx (fun x => x == n0) (h.map (normChar cfg)) = some start :=
    findIdx_of_take _ _ start (h.length - (n0 :: n1 :: ns').length + 1)
      (by rw [← List.map_take, ← findIdx_normChar]; exact (prefilterNonAscii_eq_some hp).1)
  obtain ⟨hstart, -, hnot⟩ := findIdx_some _ _ _ hfull
  rw [List.length_map] at hstart
  have hbefore : ∀ y ∈ (h.map (normChar cfg)).take start, y ≠ n0 := fun y hy => by simpa using hnot y hy
  have hocc : occurrences cfg .unicode h (n0 :: n1 :: ns') =
      (candsS cfg (subAccU cfg (n0 :: n1 :: ns') (h.length - (n0 :: n1 :: ns').length + 1)) (charClass cfg ext)
        (prevClassAt cfg ext h start) start (h.drop start)).map (·.1) := by
    rw [candsS_positions cfg (normChar cfg) _ (List.cons_ne_nil _ _) _ _ h.length
        (fun pos s hp => subAccU_eq_occ cfg n0 _ _ pos s (by omega)) _ _ _ (by rw [List.length_drop]; omega),
      occurrences, show normHay cfg .unicode h = h.map (normChar cfg) from rfl,
      occAux_skip n0 (n1 :: ns') _ 0 start hbefore, Nat.zero_add, List.map_drop]
  exact substringScan_spec cfg ext .unicode h n0 (n1 :: ns') hb _ (charClass cfg ext) start (fun _ _ => rfl) hocc _
    (substringNonAscii_go_eq cfg ext _ _ _ _ _ _)

/-- Substring matching on a code-point haystack succeeds exactly when the needle occurs contiguously in the normalized
    haystack, and reports the leftmost occurrence whose first character earns the highest bonus — every configuration
    whose largest boundary bonus is at least 8 (all presets), every needle of at least two characters no longer than the
    haystack (one-character needles take `substring_match_1_non_ascii`). -/
theorem C05_substring_unicode (cfg : Cfg) (ext : Ext) (nrep : Rep) (h : List Nat) (n0 n1 : Nat) (ns' : List Nat)
    (hb : 8 ≤ maxBonus cfg) (hlen : (n0 :: n1 :: ns').length ≤ h.length) :
    ((match prefilterNonAscii cfg h (n0 :: n1 :: ns') false with
      | none => none
      | some (start, _) => substringNonAscii cfg ext nrep h (n0 :: n1 :: ns') start).isSome =
        !(occurrences cfg .unicode h (n0 :: n1 :: ns')).isEmpty) ∧
    ∀ sc idx, (match prefilterNonAscii cfg h (n0 :: n1 :: ns') false with
      | none => none
      | some (start, _) => substringNonAscii cfg ext nrep h (n0 :: n1 :: ns') start) = some (sc, idx) →
        idx.head? = bestOccurrence cfg ext .unicode h (n0 :: n1 :: ns') := by
  have hspec := prefilterNonAscii_spec cfg h n0 n1 ns'
  cases hp : prefilterNonAscii cfg h (n0 :: n1 :: ns') false with
  | none =>
    rw [hp] at hspec
    -- an occurrence would be an embedding, and the prefilter rejects only non-subsequences
    have hnil : occurrences cfg .unicode h (n0 :: n1 :: ns') = [] :=
      List.eq_nil_iff_forall_not_mem.mpr (fun i hi => by
        have := occ_subseq cfg .unicode h _ i hi
        rw [show normHay cfg .unicode h = h.map (normChar cfg) from rfl, hspec] at this
        cases this)
    exact ⟨by rw [hnil]; rfl, fun sc idx hh => by cases hh⟩
  | some se =>
    obtain ⟨start, e⟩ := se
    have spec := substringNonAscii_spec cfg ext nrep h n0 n1 ns' hb hlen start e hp
    exact ⟨spec.1, fun _ _ hres => let ⟨_, _, _, hhead⟩ := spec.2 _ hres; hhead⟩

end NucleoVerif
