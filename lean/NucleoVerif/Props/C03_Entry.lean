import NucleoVerif.Props.C02_Fuzzy
import NucleoVerif.Props.C03_Bound
/-! # C03 — the score at the `fuzzy_match` entry point is the scheme on the reported alignment

`C03_calculateScore_eq_alignScore` has two side conditions: the window ends at the last matched character, and the `u16`
accumulator does not saturate.  Both are discharged here: on a tight window the last reported index is the window's last
position, and below 2520 characters nothing saturates. -/
namespace NucleoVerif
open Gen Spec Sub DP

theorem tight_last (cfg : Cfg) (ext : Ext) (hrep : Rep) (h : List Nat) (n0 : Nat) (nrest : List Nat) (start e : Nat)
    (tw : TightWindow cfg hrep h n0 nrest start e) :
    (calculateScore cfg ext hrep h (n0 :: nrest) start e).2.getLast?.getD start + 1 = e := by
  rw [(calculateScore_tight_last cfg ext hrep h n0 nrest start e tw).2.2.2, Option.getD_some]
  exact Nat.sub_add_cancel (Nat.succ_le_of_lt (Nat.zero_lt_of_lt tw.1))

theorem C03_tight_score (cfg : Cfg) (ext : Ext) (hrep : Rep) (h : List Nat) (n0 : Nat) (nrest : List Nat) (start e : Nat)
    (tw : TightWindow cfg hrep h n0 nrest start e) (hw : cfg.white ≤ 10) (hd : cfg.delim ≤ 10) (hpp : cfg.preferPrefix = false)
    (hlen : (n0 :: nrest).length ≤ 2519) :
    (calculateScore cfg ext hrep h (n0 :: nrest) start e).1 = alignScore cfg ext h (calculateScore cfg ext hrep h (n0 :: nrest) start e).2 := by
  have hl := tight_last cfg ext hrep h n0 nrest start e tw
  have hlen' : (calculateScore cfg ext hrep h (n0 :: nrest) start e).2.length ≤ 2519 := by
    rw [← List.length_map (f := chAt cfg hrep h), (calculateScore_tight cfg ext hrep h n0 nrest start e tw).2.2]
    exact hlen
  exact C03_calculateScore_eq_alignScore_short cfg ext hrep h n0 nrest start e tw.1 tw.2.1 hw hd hpp hl hlen'

theorem tight_score_pair (cfg : Cfg) (ext : Ext) (hrep : Rep) (h : List Nat) (n0 : Nat) (ns : List Nat)
    (hw : cfg.white ≤ 10) (hdl : cfg.delim ≤ 10) (hpp : cfg.preferPrefix = false) (hshort : (n0 :: ns).length ≤ 2519)
    (sc : Nat) (is : List Nat)
    (hex : ∃ s e, TightWindow cfg hrep h n0 ns s e ∧ (sc, is) = calculateScore cfg ext hrep h (n0 :: ns) s e) :
    sc = alignScore cfg ext h is := by
  obtain ⟨s, e, tw, hcs⟩ := hex
  have := C03_tight_score cfg ext hrep h n0 ns s e tw hw hdl hpp hshort
  rwa [← hcs] at this

theorem C03_fuzzy_score (cfg : Cfg) (ext : Ext) (hrep nrep : Rep) (h : List Nat) (n0 n1 : Nat) (ns : List Nat)
    (hk1 : ¬ (hrep = .ascii ∧ nrep = .unicode)) (hn : (n0 :: n1 :: ns).map (norm cfg nrep) = n0 :: n1 :: ns)
    (hpp : cfg.preferPrefix = false) (hw : cfg.white ≤ 10) (hdl : cfg.delim ≤ 10)
    (hlen : (n0 :: n1 :: ns).length < h.length) (hshort : (n0 :: n1 :: ns).length ≤ 2519)
    (sc : Nat) (is : List Nat) (hres : fuzzyMatch cfg ext hrep nrep h (n0 :: n1 :: ns) = some (sc, is)) :
    sc = alignScore cfg ext h is := by
  rcases fuzzyMatch_paths cfg ext hrep nrep h n0 n1 ns hk1 hn hlen _ hres with htight | ⟨s, e, hdp⟩
  · exact tight_score_pair cfg ext hrep h n0 (n1 :: ns) hw hdl hpp hshort sc is htight
  · exact C03_optimalDP_eq_alignScore cfg ext hrep h _ s e hpp sc is hdp

/-- `fuzzy_match` returns the scheme's value of the alignment it reports — ASCII haystack and needle of 2 to 2519
    characters (normalized), prefix preference off.  `hp` and `hfit` single out the contiguous shortcut and the matrix
    path but are not used: `C03_fuzzy_score` covers the greedy fallback as well. -/
theorem C03_fuzzy_entry_ascii (cfg : Cfg) (ext : Ext) (h : List Nat) (n0 n1 : Nat) (ns : List Nat)
    (hpp : cfg.preferPrefix = false) (hw : cfg.white ≤ 10) (hdl : cfg.delim ≤ 10)
    (hasc : ∀ c ∈ h, c < 128) (hn : ∀ c ∈ n0 :: n1 :: ns, normAscii cfg c = c)
    (hlen : (n0 :: n1 :: ns).length < h.length) (hshort : (n0 :: n1 :: ns).length ≤ 2519)
    (start ge e : Nat) (hp : prefilterAscii cfg h (n0 :: n1 :: ns) false = some (start, ge, e))
    (hfit : (n0 :: n1 :: ns).length = e - start ∨ slabFits (charSize .ascii) (e - start) (n0 :: n1 :: ns).length = true)
    (sc : Nat) (is : List Nat) (hres : fuzzyMatch cfg ext .ascii .ascii h (n0 :: n1 :: ns) = some (sc, is)) :
    sc = alignScore cfg ext h is :=
  C03_fuzzy_score cfg ext .ascii .ascii h n0 n1 ns (fun e => nomatch e.2) (map_eq_self _ _ hn)
    hpp hw hdl hlen hshort sc is hres

theorem C03_fuzzy_entry_unicode (cfg : Cfg) (ext : Ext) (nrep : Rep) (h : List Nat) (n0 n1 : Nat) (ns : List Nat)
    (hpp : cfg.preferPrefix = false) (hw : cfg.white ≤ 10) (hdl : cfg.delim ≤ 10)
    (hn : (n0 :: n1 :: ns).map (norm cfg nrep) = n0 :: n1 :: ns)
    (hlen : (n0 :: n1 :: ns).length < h.length) (hshort : (n0 :: n1 :: ns).length ≤ 2519)
    (start e : Nat) (hp : prefilterNonAscii cfg h (n0 :: n1 :: ns) false = some (start, e))
    (hfit : (n0 :: n1 :: ns).length = e - start ∨ slabFits (charSize .unicode) (e - start) (n0 :: n1 :: ns).length = true)
    (sc : Nat) (is : List Nat) (hres : fuzzyMatch cfg ext .unicode nrep h (n0 :: n1 :: ns) = some (sc, is)) :
    sc = alignScore cfg ext h is :=
  C03_fuzzy_score cfg ext .unicode nrep h n0 n1 ns (fun e => nomatch e.1) hn hpp hw hdl hlen hshort sc is hres

end NucleoVerif
