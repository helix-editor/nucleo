import NucleoVerif.Props.C01_DispatchTranslated
/-! # C05 (companion file) — the dispatch of `substring_match_impl`, translated from the source

See `C01_DispatchTranslated`: `Gen/Dispatch.lean` is regenerated from `matcher/src/lib.rs` on every run; with the model's
routines as callees the translated `substring_match_impl` is the model's `substringMatch`, so the decision theorems of C05
(one-character needles, the ASCII `memmem` branch, the non-ASCII scan behind the prefilter) are about the branches of
the source this build was generated from. -/
namespace NucleoVerif

/-- **`substring_match` / `substring_indices`**: the model's entry point is the translated dispatch -/
theorem C05_translated_substring_dispatch (cfg : Cfg) (ext : Ext) (hrep nrep : Rep) (h n : List Nat) :
    substringMatch cfg ext hrep nrep h n =
      Gen.Dispatch.substring_match_impl (modelCalls cfg ext hrep nrep h n) h.length n.length (hrep == .ascii) (nrep == .ascii) := by
  unfold substringMatch Gen.Dispatch.substring_match_impl
  -- as for `C01_translated_fuzzy_dispatch`
  simp only [beq_iff_eq]
  rcases n with _ | ⟨c, _ | ⟨d, t⟩⟩ <;> cases hrep <;> cases nrep <;> rfl

/-! `exact_match`, `prefix_match`, `postfix_match` (and their `_indices` twins, which the translator requires to have
the same body up to the index vector): the trimming rules and the window handed to `exact_match_impl` -/

/-- **`exact_match` / `exact_indices`**: empty-needle guard, whitespace trimming on both sides, wrap-around guard, window -/
theorem C05_translated_exact_wrapper (cfg : Cfg) (ext : Ext) (hrep nrep : Rep) (h n : List Nat) :
    exactMatch cfg ext hrep nrep h n =
      Gen.Dispatch.exact_match (modelCalls cfg ext hrep nrep h n) h.length n.length (isWs (n.headD 0))
        (isWs (n.getLast?.getD (n.headD 0))) (leadingWs hrep h) (trailingWs hrep h) := by
  unfold exactMatch Gen.Dispatch.exact_match modelCalls
  rcases n with _ | ⟨c, t⟩ <;> simp

/-- **`prefix_match` / `prefix_indices`** -/
theorem C05_translated_prefix_wrapper (cfg : Cfg) (ext : Ext) (hrep nrep : Rep) (h n : List Nat) :
    prefixMatch cfg ext hrep nrep h n =
      Gen.Dispatch.prefix_match (modelCalls cfg ext hrep nrep h n) h.length n.length (isWs (n.headD 0))
        (isWs (n.getLast?.getD (n.headD 0))) (leadingWs hrep h) (trailingWs hrep h) := by
  unfold prefixMatch Gen.Dispatch.prefix_match modelCalls
  rcases n with _ | ⟨c, t⟩ <;> simp

/-- **`postfix_match` / `postfix_indices`** -/
theorem C05_translated_postfix_wrapper (cfg : Cfg) (ext : Ext) (hrep nrep : Rep) (h n : List Nat) :
    postfixMatch cfg ext hrep nrep h n =
      Gen.Dispatch.postfix_match (modelCalls cfg ext hrep nrep h n) h.length n.length (isWs (n.headD 0))
        (isWs (n.getLast?.getD (n.headD 0))) (leadingWs hrep h) (trailingWs hrep h) := by
  unfold postfixMatch Gen.Dispatch.postfix_match modelCalls
  rcases n with _ | ⟨c, t⟩ <;> simp

end NucleoVerif
