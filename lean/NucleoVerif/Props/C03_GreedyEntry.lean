import NucleoVerif.Props.C03_Entry
/-! # C03 — the `fuzzy_match_greedy` entry point returns the scheme's value of the alignment it reports

`fuzzyGreedy_tight` describes the dispatch of `fuzzy_match_greedy` / `fuzzy_indices_greedy` — length guards, the
prefilter in its greedy-only mode, the contiguous shortcut of the ASCII path, the inner routine — as `calculate_score`
on a tight window; `C03_tight_score` gives the score there. -/
namespace NucleoVerif
open Gen Spec Sub

theorem C03_greedy_entry_ascii (cfg : Cfg) (ext : Ext) (h : List Nat) (n0 : Nat) (ns : List Nat)
    (hpp : cfg.preferPrefix = false) (hw : cfg.white ≤ 10) (hdl : cfg.delim ≤ 10)
    (hasc : ∀ c ∈ h, c < 128) (hn : ∀ c ∈ n0 :: ns, normAscii cfg c = c)
    (hlen : (n0 :: ns).length < h.length) (hshort : (n0 :: ns).length ≤ 2519)
    (sc : Nat) (is : List Nat) (hres : fuzzyGreedy cfg ext .ascii .ascii h (n0 :: ns) = some (sc, is)) :
    sc = alignScore cfg ext h is :=
  tight_score_pair cfg ext .ascii h n0 ns hw hdl hpp hshort sc is
    (fuzzyGreedy_tight cfg ext .ascii .ascii h n0 ns hlen (Or.inr ⟨rfl, rfl, hasc, hn⟩) _ hres)

theorem C03_greedy_entry_unicode (cfg : Cfg) (ext : Ext) (nrep : Rep) (h : List Nat) (n0 : Nat) (ns : List Nat)
    (hpp : cfg.preferPrefix = false) (hw : cfg.white ≤ 10) (hdl : cfg.delim ≤ 10)
    (hlen : (n0 :: ns).length < h.length) (hshort : (n0 :: ns).length ≤ 2519)
    (sc : Nat) (is : List Nat) (hres : fuzzyGreedy cfg ext .unicode nrep h (n0 :: ns) = some (sc, is)) :
    sc = alignScore cfg ext h is :=
  tight_score_pair cfg ext .unicode h n0 ns hw hdl hpp hshort sc is
    (fuzzyGreedy_tight cfg ext .unicode nrep h n0 ns hlen (Or.inl rfl) _ hres)

/-- the hypotheses are met and the greedy alignment differs from the optimal one: `"ab"` in `"a_ab"` -/
example :
    let cfg : Cfg := { delims := [47], white := 10, delim := 9, initial := .whitespace, normalize := true, ignoreCase := true, preferPrefix := false }
    fuzzyGreedy cfg (fun _ => default) .ascii .ascii [97, 95, 97, 98] [97, 98] = some (alignScore cfg (fun _ => default) [97, 95, 97, 98] [2, 3], [2, 3]) := by
  decide

end NucleoVerif
