import NucleoVerif.Gen.Dispatch
import NucleoVerif.Model.Matcher
/-! # C01 (companion file) — the dispatch of `fuzzy_matcher_impl` and `fuzzy_match_greedy_impl`, translated from the source

`Gen/Dispatch.lean` is regenerated on every run from `matcher/src/lib.rs` (guards, the `match` on the representations,
prefilter calls, the contiguous-window shortcut, the window arguments of every callee, in source order).  The callees are
parameters (`Gen.Dispatch.Calls`); instantiated with the model's routines, the translated functions are the model's entry
points, so a change of a guard, a branch or a window argument is a broken obligation. -/
namespace NucleoVerif

/-- the callbacks of the translated dispatch, instantiated with the model's routines on fixed arguments -/
def modelCalls (cfg : Cfg) (ext : Ext) (hrep nrep : Rep) (h n : List Nat) : Gen.Dispatch.Calls (Nat × List Nat) MRes where
  none := none
  some := some
  zero := (0, [])
  calculate_score := fun s e => calculateScore cfg ext hrep h n s e
  exact_match_impl := fun s e => exactImpl cfg ext hrep nrep h n s e
  fuzzy_match_greedy_ := fun s e => fuzzyGreedyInner cfg ext hrep nrep h n s e
  fuzzy_match_optimal := fun s g e => fuzzyOptimal cfg ext hrep nrep h n s g e
  prefilter_ascii := fun og => prefilterAscii cfg h n og
  prefilter_non_ascii := fun og => prefilterNonAscii cfg h n og
  substring_match_1_ascii := substring1Ascii cfg ext h (n.headD 0)
  substring_match_1_non_ascii := fun s => substring1NonAscii cfg ext h (n.headD 0) s
  substring_match_ascii := substringAscii cfg ext h n
  substring_match_non_ascii := fun s => substringNonAscii cfg ext nrep h n s

/-- **`fuzzy_match` / `fuzzy_indices`**: the model's entry point is the translated dispatch -/
theorem C01_translated_fuzzy_dispatch (cfg : Cfg) (ext : Ext) (hrep nrep : Rep) (h n : List Nat) :
    fuzzyMatch cfg ext hrep nrep h n =
      Gen.Dispatch.fuzzy_matcher_impl (modelCalls cfg ext hrep nrep h n) h.length n.length (hrep == .ascii) (nrep == .ascii) := by
  unfold fuzzyMatch Gen.Dispatch.fuzzy_matcher_impl
  -- the translated guards `a == b` read as propositions are the model's; then, for each shape of the needle
  -- (empty, one character, longer) and pair of representations, both sides compute to the same call
  simp only [beq_iff_eq]
  rcases n with _ | ⟨c, _ | ⟨d, t⟩⟩ <;> cases hrep <;> cases nrep <;> rfl

/-- **`fuzzy_match_greedy` / `fuzzy_indices_greedy`** -/
theorem C01_translated_greedy_dispatch (cfg : Cfg) (ext : Ext) (hrep nrep : Rep) (h n : List Nat) :
    fuzzyGreedy cfg ext hrep nrep h n =
      Gen.Dispatch.fuzzy_match_greedy_impl (modelCalls cfg ext hrep nrep h n) h.length n.length (hrep == .ascii) (nrep == .ascii) := by
  unfold fuzzyGreedy Gen.Dispatch.fuzzy_match_greedy_impl
  simp only [beq_iff_eq, List.isEmpty_iff_length_eq_zero]
  cases hrep <;> cases nrep <;> rfl

end NucleoVerif
