import NucleoVerif.Props.C07_UpdateSound
import NucleoVerif.Props.C07_Protocol
/-! # C07 (companion file) — the hypothesis `Narrows` / `ReparseOk` of `C07_protocol`, discharged

`C07_protocol` assumes that a `reparse` event with status `Update` narrows the matches (`ReparseOk`).  With
`C07_multi_update_narrows_ascii` that is a theorem for ASCII pattern text, for the scoring function the worker uses
(`multiEval`, `MultiPattern::score`) — the same way `C15_empOk` discharges `EmpOk`.  Its side condition on the bonus
holds for the three configurations the API can build. -/
namespace NucleoVerif
open Gen Spec

/-- **the hypothesis `Narrows` of the protocol theorem (`ReparseOk`), discharged for the scoring function the worker
    uses**: pattern id `pNew` is pattern id `pOld` with column `c`'s ASCII text continued and `reparse` answering `Update`
    for it -/
theorem C07_narrows_discharged (seg : Seg) (cfg : Cfg) (ext : Ext) (hb : 8 ≤ maxBonus cfg)
    (patterns : Nat → List (List Atom)) (columns : Nu.Item → List (Rep × List Nat))
    (hcols : ∀ it, ∀ h ∈ columns it, h.1 = .ascii → ∀ x ∈ h.2, x < 128)
    (pNew pOld c : Nat) (t s : List Nat) (case : CaseMatching) (norm : Normalization) (hasc : ∀ x ∈ t ++ s, x < 128) (old : PStatus)
    (hc : (patterns pOld)[c]? = some (parsePattern seg t case norm))
    (hnew : patterns pNew = (patterns pOld).set c (parsePattern seg (t ++ s) case norm))
    (hupd : reparseStatus old (parsePattern seg t case norm) (parsePattern seg (t ++ s) case norm) true = .update) :
    Nu.Narrows (fun p it => multiEval cfg ext (patterns p) (columns it)) pNew pOld := by
  intro it hm
  simp only at hm ⊢
  rw [hnew] at hm
  exact C07_multi_update_narrows_ascii seg (patterns pOld) c t s case norm hasc old hc hupd cfg ext hb (columns it)
    (hcols it) hm

/-- **the side condition `8 ≤ maxBonus cfg` of the narrowing theorems holds for every configuration the API can build**:
    the bonus fields of `Config` are crate-private, so a configuration has the values of `Config::DEFAULT`, of
    `match_paths()` or of `set_match_paths()` (translated from `config.rs` on every run: `Gen/Consts.lean`) -/
theorem C07_presets_satisfy_bonus_condition (cfg : Cfg)
    (h : (cfg.white = presetDefault_white ∧ cfg.delim = presetDefault_delim) ∨
         (cfg.white = presetMatchPaths_white ∧ cfg.delim = presetMatchPaths_delim) ∨
         (cfg.white = presetSetMatchPaths_white ∧ cfg.delim = presetSetMatchPaths_delim)) :
    8 ≤ maxBonus cfg := by
  unfold maxBonus
  rcases h with ⟨h1, h2⟩ | ⟨h1, h2⟩ | ⟨h1, h2⟩
  · rw [h1, h2]; decide
  · rw [h1, h2]; decide
  · rw [h1, h2]; decide

end NucleoVerif
