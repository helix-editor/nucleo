import NucleoVerif.Props.C02
import NucleoVerif.Lemmas.Scan
import NucleoVerif.Lemmas.Subseq
import NucleoVerif.Lemmas.Entry
/-! # C05 — substring, prefix, postfix and exact matching decide the documented relations

`prefix_match`, `postfix_match` and `exact_match` are `exact_match_impl` on a window each chooses: the code's trimming
(`position(!ws).unwrap_or(0)`) is the specification's whitespace count unless the haystack is all whitespace, and there
no window can equal a needle with a non-whitespace character, since normalization fixes whitespace.  The substring scans
all have the shape `scanS`: once the acceptance test at a position is shown to be "the needle stands here", the accepted
positions are the specification's occurrences. -/
namespace NucleoVerif
open Gen Spec

theorem mem_ite_singleton {α : Type} (b : Bool) (a x : α) : x ∈ (if b = true then [a] else []) ↔ b = true ∧ x = a := by
  cases b
  · exact ⟨fun h => absurd h List.not_mem_nil, fun h => Bool.noConfusion h.1⟩
  · exact ⟨fun h => ⟨rfl, List.mem_singleton.mp h⟩, fun h => List.mem_singleton.mpr h.2⟩

theorem occAux_sorted (n : List Nat) : ∀ (l : List Nat) (base : Nat),
    (occAux n base l).Pairwise (· < ·) ∧ ∀ i ∈ occAux n base l, base ≤ i := by
  intro l
  induction l with
  | nil =>
    intro base
    rw [occAux]
    split
    · exact ⟨List.pairwise_singleton _ _, fun i hi => Nat.le_of_eq (List.mem_singleton.mp hi).symm⟩
    · exact ⟨List.Pairwise.nil, fun i hi => absurd hi List.not_mem_nil⟩
  | cons c cs ih =>
    intro base
    obtain ⟨ih1, ih2⟩ := ih (base + 1)
    rw [occAux]
    refine ⟨List.pairwise_append.mpr ⟨?_, ih1, fun a ha b hb => ?_⟩, fun i hi => ?_⟩
    · split
      · exact List.pairwise_singleton _ _
      · exact List.Pairwise.nil
    · rw [((mem_ite_singleton _ _ _).mp ha).2]; exact ih2 b hb
    · rcases List.mem_append.mp hi with hi | hi
      · exact Nat.le_of_eq ((mem_ite_singleton _ _ _).mp hi).2.symm
      · exact Nat.le_of_succ_le (ih2 i hi)

theorem occAux_mem_add (n : List Nat) : ∀ (l : List Nat) (base k : Nat),
    base + k ∈ occAux n base l ↔ k + n.length ≤ l.length ∧ (l.drop k).take n.length = n := by
  intro l
  induction l with
  | nil =>
    intro base k
    rw [occAux, mem_ite_singleton, List.isEmpty_iff, List.drop_nil, List.take_nil, List.length_nil]
    constructor
    · rintro ⟨rfl, hk⟩; exact ⟨by rw [List.length_nil]; omega, rfl⟩
    · rintro ⟨hk, rfl⟩; exact ⟨rfl, by omega⟩
  | cons c cs ih =>
    intro base k
    rw [occAux, List.mem_append, mem_ite_singleton, beq_iff_eq, List.length_cons]
    cases k with
    | zero =>
      -- offset 0: the front of `c :: cs`; the tail's list starts at `base + 1`
      rw [List.drop_zero, Nat.zero_add]
      constructor
      · rintro (⟨ht, _⟩ | hm)
        · have := congrArg List.length ht
          rw [List.length_take, List.length_cons] at this
          exact ⟨by omega, ht⟩
        · exact absurd ((occAux_sorted n cs (base + 1)).2 _ hm) (Nat.not_succ_le_self _)
      · rintro ⟨_, ht⟩; exact Or.inl ⟨ht, rfl⟩
    | succ k =>
      rw [show base + (k + 1) = base + 1 + k by omega, ih, List.drop_succ_cons, show k + 1 + n.length = k + n.length + 1 by omega,
        Nat.add_le_add_iff_right]
      exact ⟨fun h => h.resolve_left (fun h' => by omega), Or.inr⟩

theorem occAux_mem (n : List Nat) : ∀ (l : List Nat) (base i : Nat),
    i ∈ occAux n base l ↔ base ≤ i ∧ i ≤ base + l.length ∧ (l.drop (i - base)).take n.length = n ∧ (i - base + n.length ≤ l.length) := by
  intro l base i
  constructor
  · intro hm
    have hle := (occAux_sorted n l base).2 i hm
    rw [← Nat.add_sub_cancel' hle, occAux_mem_add] at hm
    exact ⟨hle, by omega, hm.2, hm.1⟩
  · rintro ⟨hle, _, h3, h4⟩
    rw [← Nat.add_sub_cancel' hle, occAux_mem_add]
    exact ⟨h4, h3⟩

theorem mem_occurrences (cfg : Cfg) (hrep : Rep) (h n : List Nat) (i : Nat) :
    i ∈ occurrences cfg hrep h n ↔ i + n.length ≤ h.length ∧ ((normHay cfg hrep h).drop i).take n.length = n := by
  rw [occurrences, ← Nat.zero_add i, occAux_mem_add, Nat.zero_add, normHay, List.length_map]

theorem occ_subseq (cfg : Cfg) (hrep : Rep) (h n : List Nat) (i : Nat) (hi : i ∈ occurrences cfg hrep h n) :
    subseqB n (normHay cfg hrep h) = true := by
  rw [Sub.subseqB_iff_sublist, ← ((mem_occurrences cfg hrep h n i).mp hi).2]
  exact (List.take_sublist _ _).trans (List.drop_sublist _ _)

/-- the 25 `White_Space` code points, listed in the order and grouping of `isWs`, so that membership unfolds to
    the definition -/
def wsList : List Nat :=
  0x20 :: List.range' 0x09 5 ++ [0x85, 0xA0, 0x1680] ++ List.range' 0x2000 11 ++ [0x2028, 0x2029, 0x202F, 0x205F, 0x3000]

/-- whitespace is fixed by case folding and by Latin normalization: a check of the 25 code points -/
theorem ws_fixed (c : Nat) (h : isWs c = true) : toLower c = c ∧ normalizeLatin c = c := by
  have table : wsList.all (fun c => toLower c == c && normalizeLatin c == c) = true := by decide +kernel
  have mem : isWs c = true ↔ c ∈ wsList := by
    simp only [isWs, wsList, Bool.or_eq_true, Bool.and_eq_true, decide_eq_true_eq, List.mem_cons, List.mem_append,
      List.mem_range'_1, List.not_mem_nil, or_false, or_assoc, Nat.reduceAdd, Nat.lt_succ_iff]
  simpa using List.all_eq_true.mp table c (mem.mp h)

theorem isWs_of_isAsciiWs (c : Nat) (h : isAsciiWs c = true) : isWs c = true ∧ c < 65 := by
  simp only [isAsciiWs, Bool.or_eq_true, decide_eq_true_eq] at h
  rcases h with (((rfl | rfl) | rfl) | rfl) | rfl <;> decide

theorem norm_ws (cfg : Cfg) (r : Rep) (c : Nat) (h : wsRep r c = true) : norm cfg r c = c := by
  cases r with
  | ascii => exact if_neg (fun hc => by have := (isWs_of_isAsciiWs c h).2; omega)
  | unicode =>
    obtain ⟨h1, h2⟩ := ws_fixed c h
    simp only [norm, normChar]
    -- with or without Latin normalization, with or without case folding: `c` is a fixed point of both maps
    split <;> split <;> simp only [h1, h2]

/-- a whitespace character of the haystack is still whitespace after normalization (so it can not equal a
    non-whitespace needle character) -/
theorem ws_norm (cfg : Cfg) (r : Rep) (c : Nat) (h : wsRep r c = true) : isWs (norm cfg r c) = true := by
  rw [norm_ws cfg r c h]
  cases r with
  | ascii => exact (isWs_of_isAsciiWs c h).1
  | unicode => exact h

theorem wsOf_eq_wsRep (r : Rep) : wsOf r = wsRep r := by cases r <;> rfl

/-- `position(p)` = length of the longest prefix on which `p` fails, or `None` if it fails everywhere -/
theorem findIdx_eq_takeWhile (p : Nat → Bool) : ∀ l : List Nat,
    findIdx p l = if l.all (fun c => !p c) then none else some (l.takeWhile (fun c => !p c)).length := by
  intro l
  induction l with
  | nil => rfl
  | cons c cs ih =>
    simp only [findIdx, List.all_cons, List.takeWhile_cons, ih]
    cases p c
    · simp only [Bool.false_eq_true, if_false, Bool.not_false, Bool.true_and, if_true, List.length_cons]
      split <;> rfl
    · rfl

/-- the code's `position(|c| !ws).unwrap_or(0)` equals the number of leading whitespace characters
    unless the haystack is all whitespace (where it returns 0) -/
theorem leadingWs_eq (r : Rep) (h : List Nat) :
    leadingWs r h = if h.all (wsRep r) then 0 else lead r h := by
  simp only [leadingWs, lead, findIdx_eq_takeWhile, wsOf_eq_wsRep, Bool.not_not]
  split <;> rfl

theorem trailingWs_eq (r : Rep) (h : List Nat) :
    trailingWs r h = if h.all (wsRep r) then 0 else trail r h := by
  simp only [trailingWs, trail, findIdx_eq_takeWhile, wsOf_eq_wsRep, Bool.not_not, List.all_reverse]
  split <;> rfl

theorem takeWhile_length_of_all (p : Nat → Bool) : ∀ (l : List Nat), l.all p = true → (l.takeWhile p).length = l.length := by
  intro l
  induction l with
  | nil => intro _; rfl
  | cons a t ih =>
    intro h
    rw [List.all_cons, Bool.and_eq_true] at h
    rw [List.takeWhile_cons_of_pos h.1, List.length_cons, ih h.2, List.length_cons]

theorem trail_eq_length_of_all (r : Rep) (h : List Nat) (hall : h.all (wsRep r) = true) : trail r h = h.length := by
  rw [trail, wsOf_eq_wsRep, takeWhile_length_of_all _ _ (by rw [List.all_reverse]; exact hall), List.length_reverse]

/-- in an all-whitespace haystack every normalized character is whitespace, so no window equals a needle that has a
    non-whitespace character -/
theorem window_ne_of_all_ws (cfg : Cfg) (r : Rep) (h n : List Nat) (hall : h.all (wsRep r) = true)
    (c : Nat) (hc : c ∈ n) (hcw : isWs c = false) (s k : Nat) :
    (((normHay cfg r h).drop s).take k == n) = false := by
  apply Bool.eq_false_iff.mpr
  intro he
  rw [beq_iff_eq] at he
  have hm : c ∈ normHay cfg r h := (List.drop_sublist _ _).subset ((List.take_sublist _ _).subset (he ▸ hc))
  obtain ⟨x, hx, rfl⟩ := List.mem_map.mp hm
  rw [ws_norm cfg r x (List.all_eq_true.mp hall x hx)] at hcw
  cases hcw

theorem exactImpl_none_of_all_ws (cfg : Cfg) (ext : Ext) (hrep nrep : Rep) (h n : List Nat)
    (hk1 : ¬ (hrep = .ascii ∧ nrep = .unicode)) (hn : n.map (norm cfg nrep) = n) (hall : h.all (wsRep hrep) = true)
    (c : Nat) (hc : c ∈ n) (hcw : isWs c = false) (s e : Nat) : exactImpl cfg ext hrep nrep h n s e = none := by
  rw [← Option.not_isSome_iff_eq_none, exactImpl_window cfg ext hrep nrep h n s e hk1 hn,
    window_ne_of_all_ws cfg hrep h n hall c hc hcw, Bool.and_false]
  exact Bool.false_ne_true

theorem leadTrim_cases (r : Rep) (h : List Nat) (b : Bool) :
    (if (!b) = true then leadingWs r h else 0) = (if b = true then 0 else lead r h) ∨ (h.all (wsRep r) = true ∧ b = false) := by
  cases b
  · cases hall : h.all (wsRep r)
    · left; simp only [leadingWs_eq, hall, Bool.not_false, if_true, Bool.false_eq_true, if_false]
    · right; exact ⟨rfl, rfl⟩
  · left; rfl

theorem trailTrim_cases (r : Rep) (h : List Nat) (b : Bool) :
    (if (!b) = true then trailingWs r h else 0) = (if b = true then 0 else trail r h) ∨ (h.all (wsRep r) = true ∧ b = false) := by
  cases b
  · cases hall : h.all (wsRep r)
    · left; simp only [trailingWs_eq, hall, Bool.not_false, if_true, Bool.false_eq_true, if_false]
    · right; exact ⟨rfl, rfl⟩
  · left; rfl

section windows
variable (cfg : Cfg) (ext : Ext) (hrep nrep : Rep) (h n : List Nat)
  (hk1 : ¬ (hrep = .ascii ∧ nrep = .unicode)) (hn : n.map (norm cfg nrep) = n) (hpos : 0 < n.length)
include hk1 hn hpos

theorem prefixWindow_isSome (l : Nat) :
    (if h.length - l < n.length then none else exactImpl cfg ext hrep nrep h n l (n.length + l)).isSome =
      (decide (l + n.length ≤ h.length) && (((normHay cfg hrep h).drop l).take n.length == n)) := by
  split
  · next hlt => rw [decide_eq_false (by omega)]; rfl
  · next hge =>
    rw [exactImpl_window cfg ext hrep nrep h n _ _ hk1 hn, Nat.add_sub_cancel, decide_eq_true rfl,
      decide_eq_true (by omega)]

theorem postfixWindow_isSome (t : Nat) :
    (if h.length - t < n.length then none
      else exactImpl cfg ext hrep nrep h n (h.length - n.length - t) (h.length - t)).isSome =
      (decide (t + n.length ≤ h.length) && (((normHay cfg hrep h).drop (h.length - t - n.length)).take n.length == n)) := by
  split
  · next hlt => rw [decide_eq_false (by omega)]; rfl
  · next hge =>
    rw [Nat.sub_right_comm, exactImpl_window cfg ext hrep nrep h n _ _ hk1 hn, Nat.sub_sub_self (Nat.le_of_not_lt hge),
      decide_eq_true rfl, decide_eq_true (by omega)]

theorem exactWindow_isSome (l t : Nat) :
    (if t = h.length then none else exactImpl cfg ext hrep nrep h n l (h.length - t)).isSome =
      (decide (l + t ≤ h.length) && (((normHay cfg hrep h).drop l).take (h.length - l - t) == n) &&
        decide (h.length - l - t = n.length)) := by
  by_cases hlen : h.length - l - t = n.length
  · rw [if_neg (by omega), exactImpl_window cfg ext hrep nrep h n _ _ hk1 hn, Nat.sub_right_comm, decide_eq_true hlen,
      decide_eq_true hlen.symm, decide_eq_true (by omega), Bool.and_true]
  · rw [decide_eq_false hlen, Bool.and_false]
    split
    · rfl
    · rw [exactImpl_window cfg ext hrep nrep h n _ _ hk1 hn, Nat.sub_right_comm, decide_eq_false (fun e' => hlen e'.symm),
        Bool.false_and]

end windows

theorem getLast?_getD_mem (n0 : Nat) (ns : List Nat) : (n0 :: ns).getLast?.getD n0 ∈ n0 :: ns := by
  rw [List.getLast?_eq_some_getLast (List.cons_ne_nil _ _)]
  exact List.getLast_mem _

/-- prefix matching succeeds exactly when the needle equals the normalized haystack text at the start, where
    leading haystack whitespace is skipped unless the needle itself starts with whitespace -/
theorem C05_prefix (cfg : Cfg) (ext : Ext) (hrep nrep : Rep) (h : List Nat) (n0 : Nat) (ns : List Nat)
    (hk1 : ¬ (hrep = .ascii ∧ nrep = .unicode)) (hn : (n0 :: ns).map (norm cfg nrep) = n0 :: ns) :
    (prefixMatch cfg ext hrep nrep h (n0 :: ns)).isSome =
      (decide ((if isWs n0 then 0 else lead hrep h) + (n0 :: ns).length ≤ h.length) &&
        (((normHay cfg hrep h).drop (if isWs n0 then 0 else lead hrep h)).take (n0 :: ns).length == n0 :: ns)) := by
  have key := prefixWindow_isSome cfg ext hrep nrep h (n0 :: ns) hk1 hn (Nat.succ_pos _)
  show (if h.length - (if (!isWs n0) = true then leadingWs hrep h else 0) < (n0 :: ns).length then none else _).isSome = _
  rcases leadTrim_cases hrep h (isWs n0) with e | ⟨hall, hw⟩
  · rw [e]; exact key _
  · have hne := window_ne_of_all_ws cfg hrep h (n0 :: ns) hall n0 (List.mem_cons_self ..) hw
    rw [key, hne, hne, Bool.and_false, Bool.and_false]

/-- postfix matching succeeds exactly when the needle equals the normalized haystack text at the end, where
    trailing haystack whitespace is skipped unless the needle itself ends with whitespace -/
theorem C05_postfix (cfg : Cfg) (ext : Ext) (hrep nrep : Rep) (h : List Nat) (n0 : Nat) (ns : List Nat)
    (hk1 : ¬ (hrep = .ascii ∧ nrep = .unicode)) (hn : (n0 :: ns).map (norm cfg nrep) = n0 :: ns) :
    (postfixMatch cfg ext hrep nrep h (n0 :: ns)).isSome =
      (decide ((if isWs ((n0 :: ns).getLast?.getD n0) then 0 else trail hrep h) + (n0 :: ns).length ≤ h.length) &&
        (((normHay cfg hrep h).drop (h.length - (if isWs ((n0 :: ns).getLast?.getD n0) then 0 else trail hrep h) - (n0 :: ns).length)).take
          (n0 :: ns).length == n0 :: ns)) := by
  have key := postfixWindow_isSome cfg ext hrep nrep h (n0 :: ns) hk1 hn (Nat.succ_pos _)
  show (if h.length - (if (!isWs ((n0 :: ns).getLast?.getD n0)) = true then trailingWs hrep h else 0) < (n0 :: ns).length
    then none else _).isSome = _
  rcases trailTrim_cases hrep h (isWs ((n0 :: ns).getLast?.getD n0)) with e | ⟨hall, hw⟩
  · rw [e]; exact key _
  · have hne := window_ne_of_all_ws cfg hrep h (n0 :: ns) hall _ (getLast?_getD_mem n0 ns) hw
    rw [key, hne, hne, Bool.and_false, Bool.and_false]

/-- exact matching succeeds exactly when the needle equals the whole normalized haystack text, where leading /
    trailing haystack whitespace is ignored unless the needle itself starts / ends with whitespace -/
theorem C05_exact (cfg : Cfg) (ext : Ext) (hrep nrep : Rep) (h : List Nat) (n0 : Nat) (ns : List Nat)
    (hk1 : ¬ (hrep = .ascii ∧ nrep = .unicode)) (hn : (n0 :: ns).map (norm cfg nrep) = n0 :: ns) :
    (exactMatch cfg ext hrep nrep h (n0 :: ns)).isSome =
      (decide ((if isWs n0 then 0 else lead hrep h) + (if isWs ((n0 :: ns).getLast?.getD n0) then 0 else trail hrep h) ≤ h.length) &&
        (((normHay cfg hrep h).drop (if isWs n0 then 0 else lead hrep h)).take
          (h.length - (if isWs n0 then 0 else lead hrep h) - (if isWs ((n0 :: ns).getLast?.getD n0) then 0 else trail hrep h)) == n0 :: ns) &&
        decide (h.length - (if isWs n0 then 0 else lead hrep h) - (if isWs ((n0 :: ns).getLast?.getD n0) then 0 else trail hrep h) = (n0 :: ns).length)) := by
  have key := exactWindow_isSome cfg ext hrep nrep h (n0 :: ns) hk1 hn (Nat.succ_pos _)
  show (if (if (!isWs ((n0 :: ns).getLast?.getD n0)) = true then trailingWs hrep h else 0) = h.length then none
    else exactImpl cfg ext hrep nrep h (n0 :: ns) (if (!isWs n0) = true then leadingWs hrep h else 0) _).isSome = _
  -- on an all-whitespace haystack, under a needle with a non-whitespace character, the right-hand side is false whatever
  -- is trimmed
  have hblank : ∀ c ∈ n0 :: ns, h.all (wsRep hrep) = true → isWs c = false → ∀ l t,
      (decide (l + t ≤ h.length) && (((normHay cfg hrep h).drop l).take (h.length - l - t) == n0 :: ns) &&
        decide (h.length - l - t = (n0 :: ns).length)) = false := fun c hc hall hw l t => by
    rw [window_ne_of_all_ws cfg hrep h (n0 :: ns) hall c hc hw, Bool.and_false, Bool.false_and]
  rw [key]
  rcases leadTrim_cases hrep h (isWs n0) with e1 | ⟨hall, hw⟩
  · rcases trailTrim_cases hrep h (isWs ((n0 :: ns).getLast?.getD n0)) with e2 | ⟨hall, hw⟩
    · rw [e1, e2]
    · rw [hblank _ (getLast?_getD_mem n0 ns) hall hw, hblank _ (getLast?_getD_mem n0 ns) hall hw]
  · rw [hblank _ (List.mem_cons_self ..) hall hw, hblank _ (List.mem_cons_self ..) hall hw]

theorem Best.offer_ok (cfg : Cfg) (b : Best) (pos bonus : Nat) (ok : Bool) :
    b.offer cfg pos bonus ok = if ok then b.offer cfg pos bonus true else b := by
  cases ok
  · simp only [Best.offer, Bool.false_eq_true, and_false, if_false, ite_self]
  · rfl

theorem ite_and_bool {α : Type} (c r : Bool) (A B : α) :
    (if c = true then (if r = true then A else B) else B) = (if (c && r) = true then A else B) := by
  cases c <;> cases r <;> rfl

/-- the acceptance test of `substring_match_ascii` at one position: prefilter hit, then the rest of the needle -/
def subAcc (cfg : Cfg) (n : List Nat) (limit k : Nat) (ic : Bool) (pos : Nat) (s : List Nat) : Bool :=
  (decide (pos < limit) && (if ic then asciiEq true (n.headD 0) (s.headD 0) else (s.take k == n.take k))) && restEqAscii cfg s n k

theorem substringAscii_go_eq (cfg : Cfg) (n : List Nat) (limit k : Nat) (ic : Bool) :
    ∀ (xs : List Nat) (b : Best) (prev : CharClass) (pos : Nat),
      substringAscii.go cfg n k ic limit b prev pos xs = scanS cfg (subAcc cfg n limit k ic) (charClassAscii cfg) b prev pos xs := by
  intro xs
  induction xs with
  | nil => intro _ _ _; rfl
  | cons x xs ih =>
    intro b prev pos
    rw [substringAscii.go, scanS, ih, Best.offer_ok, ite_and_bool]
    rfl

theorem window_split (f : Nat → Nat) (s n : List Nat) (k : Nat) (hk : k ≤ n.length) :
    ((s.take n.length).map f == n) =
      (((s.take k).map f == n.take k) && (((s.drop k).take (n.length - k)).map f == n.drop k)) := by
  have e1 : ((s.take n.length).map f).take k = (s.take k).map f := by
    rw [← List.map_take, List.take_take, Nat.min_eq_left hk]
  have e2 : ((s.take n.length).map f).drop k = ((s.drop k).take (n.length - k)).map f := by
    rw [← List.map_drop, List.drop_take]
  rw [← e1, ← e2, Bool.eq_iff_iff, Bool.and_eq_true, beq_iff_eq, beq_iff_eq, beq_iff_eq]
  constructor
  · intro e; rw [e]; exact ⟨rfl, rfl⟩
  · intro ⟨h1, h2⟩; rw [← List.take_append_drop k (List.map f _), h1, h2, List.take_append_drop]

/-- the shape of every acceptance test of the `substring_match_*` loops: bounds test `P`, test `T` of the first `k`
    characters (only needed within bounds), test `R` of the rest -/
theorem acc_eq_window (f : Nat → Nat) (s n : List Nat) (k : Nat) (hk : k ≤ n.length) (P : Prop) [Decidable P]
    (hP : P ↔ n.length ≤ s.length) (T R : Bool)
    (hT : P → T = ((s.take k).map f == n.take k)) (hR : R = (((s.drop k).take (n.length - k)).map f == n.drop k)) :
    ((decide P && T) && R) = ((s.take n.length).map f == n) := by
  by_cases hp : P
  · rw [decide_eq_true hp, Bool.true_and, hT hp, hR, window_split f s n k hk]
  · rw [decide_eq_false hp, Bool.false_and, Bool.false_and]
    symm
    apply Bool.eq_false_iff.mpr
    intro he
    have := congrArg List.length (beq_iff_eq.mp he)
    rw [List.length_map, List.length_take] at this
    exact hp (hP.mpr (by omega))

theorem head_window (f : Nat → Nat) (s : List Nat) (c : Nat) (hs : 0 < s.length) :
    ((s.take 1).map f == [c]) = (f (s.headD 0) == c) := by
  cases s with
  | nil => cases hs
  | cons x xs =>
    rw [Bool.eq_iff_iff, beq_iff_eq, beq_iff_eq]
    simp only [List.take_succ_cons, List.take_zero, List.map_cons, List.map_nil, List.cons.injEq, and_true, List.headD_cons]

theorem norm_eq_iff_raw (cfg : Cfg) (c : Nat) (hc : normAscii cfg c = c) (hl : ¬ (cfg.ignoreCase = true ∧ 97 ≤ c ∧ c ≤ 122)) (x : Nat) :
    normAscii cfg x = c ↔ x = c := by
  unfold normAscii at *
  by_cases hi : cfg.ignoreCase = true
  · simp only [hi, true_and] at hc hl ⊢
    constructor
    · intro h
      split at h
      · split at hc <;> omega
      · exact h
    · intro h; subst h; exact hc
  · simp [hi]

theorem map_norm_eq_iff_raw (cfg : Cfg) : ∀ (p q : List Nat), (∀ c ∈ q, normAscii cfg c = c) →
    (∀ c ∈ q, ¬ (cfg.ignoreCase = true ∧ 97 ≤ c ∧ c ≤ 122)) → ((p.map (normAscii cfg) == q) = (p == q)) := by
  intro p
  induction p with
  | nil => intro q _ _; cases q <;> rfl
  | cons x xs ih =>
    intro q hq hl
    cases q with
    | nil => rfl
    | cons c cs =>
      rw [List.map_cons, List.cons_beq_cons, List.cons_beq_cons,
        ih cs (fun d hd => hq d (List.mem_cons_of_mem _ hd)) (fun d hd => hl d (List.mem_cons_of_mem _ hd))]
      congr 1
      rw [Bool.eq_iff_iff, beq_iff_eq, beq_iff_eq]
      exact norm_eq_iff_raw cfg c (hq c (List.mem_cons_self ..)) (hl c (List.mem_cons_self ..)) x

open NucleoVerif.Sub in
/-- the acceptance test of `substring_match_ascii` is "the needle occurs here" — for an already-normalized needle,
    whatever prefilter shape (`memchr` on one character case-insensitively, raw comparison of the leading non-letters,
    raw comparison of the whole needle) the code selected -/
theorem subAcc_eq_occ (cfg : Cfg) (n0 : Nat) (ns : List Nat) (hn : ∀ c ∈ n0 :: ns, normAscii cfg c = c)
    (limit pos : Nat) (s : List Nat) (hlim : pos < limit ↔ (n0 :: ns).length ≤ s.length) :
    subAcc cfg (n0 :: ns) limit (substringKIC cfg (n0 :: ns)).1 (substringKIC cfg (n0 :: ns)).2 pos s =
      ((s.take (n0 :: ns).length).map (normAscii cfg) == n0 :: ns) := by
  -- raw comparison of the first `k` characters, none of them a letter that case folding could change
  have raw : ∀ k, k ≤ (n0 :: ns).length → (∀ c ∈ (n0 :: ns).take k, ¬ (cfg.ignoreCase = true ∧ 97 ≤ c ∧ c ≤ 122)) →
      subAcc cfg (n0 :: ns) limit k false pos s = ((s.take (n0 :: ns).length).map (normAscii cfg) == n0 :: ns) :=
    fun k hk hnl => acc_eq_window (normAscii cfg) s (n0 :: ns) k hk _ hlim _ _
      (fun _ => (map_norm_eq_iff_raw cfg _ _ (fun c hc => hn c (List.take_subset k _ hc)) hnl).symm) rfl
  unfold substringKIC
  cases hi : cfg.ignoreCase
  · exact raw _ (Nat.le_refl _) (fun c _ hl => by rw [hi] at hl; cases hl.1)
  · have hnl : ∀ len, (∀ c ∈ (n0 :: ns).take len, (fun c => decide (97 ≤ c) && decide (c ≤ 122)) c = false) →
        ∀ c ∈ (n0 :: ns).take len, ¬ (cfg.ignoreCase = true ∧ 97 ≤ c ∧ c ≤ 122) := fun len hf c hc hl => by
      have := hf c hc
      simp only [Bool.and_eq_false_imp, decide_eq_true_eq, decide_eq_false_iff_not] at this
      exact this hl.2.1 hl.2.2
    rw [if_pos rfl]
    cases hf : findIdx (fun c => 97 ≤ c && c ≤ 122) (n0 :: ns) with
    | none => exact raw _ (Nat.le_refl _) (hnl _ (fun c hc => findIdx_none _ _ hf c (List.take_subset _ _ hc)))
    | some len =>
      obtain ⟨hlen, _, hbefore⟩ := findIdx_some _ _ len hf
      match len with
      | 0 =>
        -- the first character is a letter: the one-character prefilter compares it case-insensitively
        refine acc_eq_window (normAscii cfg) s (n0 :: ns) 1 (Nat.succ_pos _) _ hlim _ _ (fun hp => ?_) rfl
        rw [show (n0 :: ns).take 1 = [n0] from rfl,
          head_window _ _ _ (by have := hlim.mp hp; rw [List.length_cons] at this; omega),
          Bool.eq_iff_iff, beq_iff_eq, ← asciiEq_iff cfg n0 _ (hn n0 (List.mem_cons_self ..)), hi]
        rfl
      | 1 => exact raw 1 (Nat.succ_pos _) (hnl 1 hbefore)
      | len + 2 => exact raw (len + 2) (Nat.le_of_lt hlen) (hnl _ hbefore)

theorem candsS_positions (cfg : Cfg) (f : Nat → Nat) (n : List Nat) (hn : n ≠ []) (acc : Nat → List Nat → Bool)
    (cl : Nat → CharClass) (len : Nat)
    (hacc : ∀ pos s, pos + s.length = len → acc pos s = ((s.take n.length).map f == n)) :
    ∀ (xs : List Nat) (prev : CharClass) (pos : Nat), pos + xs.length = len →
      (candsS cfg acc cl prev pos xs).map (·.1) = occAux n pos (xs.map f) := by
  intro xs
  induction xs with
  | nil =>
    intro _ _ _
    cases n with
    | nil => exact absurd rfl hn
    | cons _ _ => rfl
  | cons x xs ih =>
    intro prev pos hp
    rw [candsS, List.map_append, ih (cl x) (pos + 1) (by rw [List.length_cons] at hp; omega), hacc pos _ hp, List.map_take]
    simp only [List.map_cons, occAux]
    congr 1
    split <;> rfl

theorem candsS_score (cfg : Cfg) (ext : Ext) (h : List Nat) (acc : Nat → List Nat → Bool) (cl : Nat → CharClass) :
    ∀ (xs : List Nat) (prev : CharClass) (pos : Nat),
      (∀ k c, xs[k]? = some c → h[pos + k]? = some c) → prev = prevClassAt cfg ext h pos →
      (∀ x ∈ xs, cl x = charClass cfg ext x) →
      ∀ ps ∈ candsS cfg acc cl prev pos xs, ps.2 = firstBonus cfg ext h ps.1 * 2 + 16 := by
  intro xs
  induction xs with
  | nil => intro _ _ _ _ _ ps h; cases h
  | cons x xs ih =>
    intro prev pos hxs hprev hcl ps hps
    have h0 : h[pos]? = some x := hxs 0 x rfl
    rw [candsS, List.mem_append] at hps
    rcases hps with hps | hps
    · obtain ⟨-, rfl⟩ := (mem_ite_singleton _ _ _).mp hps
      simp only [firstBonus, h0, Option.map_some, Option.getD_some, hcl x (List.mem_cons_self ..), hprev, DP.bonusFor_eq_spec,
          BONUS_FIRST_CHAR_MULTIPLIER, SCORE_MATCH, prevClassAt]
      congr 3
      split
      · rfl
      · cases h[pos - 1]? <;> rfl
    · apply ih (cl x) (pos + 1) _ _ (fun y hy => hcl y (List.mem_cons_of_mem _ hy)) ps hps
      · intro k c hk
        rw [Nat.add_assoc, Nat.add_comm 1 k]
        exact hxs (k + 1) c hk
      · simp only [prevClassAt, Nat.add_sub_cancel, h0, hcl x (List.mem_cons_self ..), Nat.add_one_ne_zero, if_false]

def bestStep (f : Nat → Nat) (best : Option Nat) (i : Nat) : Option Nat :=
  match best with
  | none => some i
  | some b => if f i > f b then some i else some b

theorem bestOccurrence_eq_fold (cfg : Cfg) (ext : Ext) (hrep : Rep) (h n : List Nat) :
    bestOccurrence cfg ext hrep h n = (occurrences cfg hrep h n).foldl (bestStep (firstBonus cfg ext h)) none := by
  unfold bestOccurrence
  congr 1

theorem bestFold_leftmost (f : Nat → Nat) : ∀ (l : List Nat) (b0 : Nat), (b0 :: l).Pairwise (· < ·) →
    ∃ b, l.foldl (bestStep f) (some b0) = some b ∧ b ∈ b0 :: l ∧ ∀ i ∈ b0 :: l, f i ≤ f b ∧ (f i = f b → b ≤ i) := by
  intro l
  induction l with
  | nil =>
    intro b0 _
    refine ⟨b0, rfl, List.mem_cons_self .., fun i hi => ?_⟩
    rw [List.mem_singleton.mp hi]
    exact ⟨Nat.le_refl _, fun _ => Nat.le_refl _⟩
  | cons x xs ih =>
    intro b0 hpw
    obtain ⟨hb0, hx, hxs⟩ : (∀ i ∈ x :: xs, b0 < i) ∧ (∀ i ∈ xs, x < i) ∧ xs.Pairwise (· < ·) := by
      simpa only [List.pairwise_cons, and_assoc] using hpw
    have hb0x := hb0 x (List.mem_cons_self ..)
    rw [List.foldl_cons, bestStep]
    -- the new best `b1` is `x` or `b0`; it is before all of `xs`, and the other of the two loses against it
    split
    · next hgt =>
      obtain ⟨b, hf, hm, hmax⟩ := ih x (List.pairwise_cons.mpr ⟨hx, hxs⟩)
      refine ⟨b, hf, List.mem_cons_of_mem _ hm, fun i hi => ?_⟩
      rcases List.mem_cons.mp hi with rfl | hi
      · have := hmax x (List.mem_cons_self ..)
        exact ⟨by omega, by omega⟩
      · exact hmax i hi
    · next hle =>
      obtain ⟨b, hf, hm, hmax⟩ := ih b0 (List.pairwise_cons.mpr ⟨fun i hi => hb0 i (List.mem_cons_of_mem _ hi), hxs⟩)
      refine ⟨b, hf, ?_, fun i hi => ?_⟩
      · rcases List.mem_cons.mp hm with rfl | hm
        · exact List.mem_cons_self ..
        · exact List.mem_cons_of_mem _ (List.mem_cons_of_mem _ hm)
      · have hb := hmax b0 (List.mem_cons_self ..)
        rcases List.mem_cons.mp hi with rfl | hi
        · exact hb
        · rcases List.mem_cons.mp hi with rfl | hi
          · exact ⟨by omega, by omega⟩
          · exact hmax i (List.mem_cons_of_mem _ hi)

/-- `bestFold_leftmost` with an accumulated prefix `P` of earlier candidates among which `b0` is the leftmost best -/
theorem bestFold_spec (f : Nat → Nat) :
    ∀ (l : List Nat) (b0 : Nat), l.Pairwise (· < ·) → (∀ i ∈ l, b0 < i) →
      ∀ (P : List Nat), b0 ∈ P → (∀ i ∈ P, f i ≤ f b0 ∧ (f i = f b0 → b0 ≤ i)) → (∀ i ∈ P, i ≤ b0 ∨ True) →
      ∃ b, l.foldl (bestStep f) (some b0) = some b ∧
        b ∈ P ++ l ∧ ∀ i ∈ P ++ l, f i ≤ f b ∧ (f i = f b → b ≤ i) := by
  intro l b0 hpw hgt P hb hP _
  obtain ⟨b, hf, hm, hmax⟩ := bestFold_leftmost f l b0 (List.pairwise_cons.mpr ⟨hgt, hpw⟩)
  have hb0 := hmax b0 (List.mem_cons_self ..)
  refine ⟨b, hf, ?_, fun i hi => ?_⟩
  · rcases List.mem_cons.mp hm with rfl | hm
    · exact List.mem_append_left _ hb
    · exact List.mem_append_right _ hm
  · rcases List.mem_append.mp hi with hi | hi
    · have := hP i hi
      exact ⟨by omega, by omega⟩
    · exact hmax i (List.mem_cons_of_mem _ hi)

theorem best_of_scan (cfg : Cfg) (ext : Ext) (hrep : Rep) (h n : List Nat) (C : List (Nat × Nat)) (b : Best)
    (hocc : occurrences cfg hrep h n = C.map (·.1)) (hsc : ∀ ps ∈ C, ps.2 = firstBonus cfg ext h ps.1 * 2 + 16)
    (inv : ScanInv cfg b C) :
    (b.score = 0 → occurrences cfg hrep h n = []) ∧
    (b.score ≠ 0 → bestOccurrence cfg ext hrep h n = some b.pos ∧ b.pos ∈ occurrences cfg hrep h n) := by
  refine ⟨fun hz => ?_, fun hz => ?_⟩
  · -- every candidate scores at least 16
    cases C with
    | nil => exact hocc
    | cons ps t =>
      have := inv.upper ps (List.mem_cons_self ..)
      have := hsc ps (List.mem_cons_self ..)
      omega
  · rcases inv.attained with z | ⟨a1, a2⟩
    · exact absurd z hz
    · have hbm : b.pos ∈ occurrences cfg hrep h n := hocc ▸ List.mem_map.mpr ⟨_, a1, rfl⟩
      refine ⟨?_, hbm⟩
      have hsrt := (occAux_sorted n (normHay cfg hrep h) 0).1
      rw [← occurrences] at hsrt
      rw [bestOccurrence_eq_fold]
      cases ho : occurrences cfg hrep h n with
      | nil => rw [ho] at hbm; cases hbm
      | cons i0 rest =>
        rw [ho] at hsrt hbm
        obtain ⟨r, hr1, hr2, hr3⟩ := bestFold_leftmost (firstBonus cfg ext h) rest i0 hsrt
        rw [List.foldl_cons, bestStep, hr1]
        congr 1
        -- `r` and `b.pos` are both the leftmost maximiser of the first-character bonus among the occurrences
        obtain ⟨psr, hpsr, hpsr1⟩ := List.mem_map.mp (show r ∈ C.map (·.1) by rw [← hocc, ho]; exact hr2)
        have fb_b : b.score = firstBonus cfg ext h b.pos * 2 + 16 := hsc _ a1
        have fb_r := hsc _ hpsr
        have h1 := hr3 b.pos hbm
        have h2 := inv.upper psr hpsr
        have h3 := a2 psr hpsr
        rw [hpsr1] at fb_r h3
        have heq : firstBonus cfg ext h b.pos = firstBonus cfg ext h r := Nat.le_antisymm h1.1 (by omega)
        exact Nat.le_antisymm (h1.2 heq) (h3 (by rw [fb_r, fb_b, heq]))

/-- the common end of `substring_match_ascii` and `substring_match_non_ascii`: a scan whose accepted positions are the
    occurrences answers iff there is one, with `calculate_score` on the window of the best one -/
theorem substringScan_spec (cfg : Cfg) (ext : Ext) (hrep : Rep) (h : List Nat) (n0 : Nat) (ns : List Nat) (hb : 8 ≤ maxBonus cfg)
    (acc : Nat → List Nat → Bool) (cl : Nat → CharClass) (start : Nat)
    (hcl : ∀ x ∈ h.drop start, cl x = charClass cfg ext x)
    (hocc : occurrences cfg hrep h (n0 :: ns) =
      (candsS cfg acc cl (prevClassAt cfg ext h start) start (h.drop start)).map (·.1))
    (b : Best) (hbdef : b = scanS cfg acc cl ⟨0, 0, false⟩ (prevClassAt cfg ext h start) start (h.drop start)) :
    (if b.score = 0 then none
      else some (calculateScore cfg ext hrep h (n0 :: ns) b.pos (b.pos + (n0 :: ns).length))).isSome =
        !(occurrences cfg hrep h (n0 :: ns)).isEmpty ∧
    ∀ r, (if b.score = 0 then none
      else some (calculateScore cfg ext hrep h (n0 :: ns) b.pos (b.pos + (n0 :: ns).length))) = some r →
        ∃ P, P ∈ occurrences cfg hrep h (n0 :: ns) ∧ r = calculateScore cfg ext hrep h (n0 :: ns) P (P + (n0 :: ns).length) ∧
          r.2.head? = bestOccurrence cfg ext hrep h (n0 :: ns) := by
  have hsc := candsS_score cfg ext h acc cl (h.drop start) (prevClassAt cfg ext h start) start
    (fun k c hk => by rwa [List.getElem?_drop] at hk) rfl hcl
  have inv := scanS_inv cfg hb acc cl (h.drop start) ⟨0, 0, false⟩ (prevClassAt cfg ext h start) start []
    ⟨fun _ hps => absurd hps List.not_mem_nil, Or.inl rfl, fun hs => Bool.noConfusion hs⟩
    (fun _ hps => absurd hps List.not_mem_nil)
  rw [List.nil_append, ← hbdef] at inv
  obtain ⟨k1, k2⟩ := best_of_scan cfg ext hrep h (n0 :: ns) _ b hocc hsc inv
  by_cases hz : b.score = 0
  · rw [if_pos hz, k1 hz]
    exact ⟨rfl, fun _ hh => by cases hh⟩
  · rw [if_neg hz]
    obtain ⟨m1, m2⟩ := k2 hz
    refine ⟨?_, fun r hh => ⟨b.pos, m2, (Option.some.inj hh).symm, ?_⟩⟩
    · cases ho : occurrences cfg hrep h (n0 :: ns) with
      | nil => rw [ho] at m2; cases m2
      | cons _ _ => rfl
    · have hbpos : b.pos < h.length := by
        have := ((mem_occurrences cfg hrep h (n0 :: ns) b.pos).mp m2).1
        rw [List.length_cons] at this
        omega
      rw [← Option.some.inj hh, m1]
      exact calculateScore_head cfg ext hrep h n0 ns b.pos _ hbpos (Nat.lt_add_of_pos_right (Nat.succ_pos _))

theorem substringAscii_spec (cfg : Cfg) (ext : Ext) (h : List Nat) (n0 : Nat) (ns : List Nat)
    (hb : 8 ≤ maxBonus cfg) (hasc : ∀ x ∈ h, x < 128) (hn : ∀ c ∈ n0 :: ns, normAscii cfg c = c)
    (hlen : (n0 :: ns).length ≤ h.length) :
    (substringAscii cfg ext h (n0 :: ns)).isSome = !(occurrences cfg .ascii h (n0 :: ns)).isEmpty ∧
    ∀ r, substringAscii cfg ext h (n0 :: ns) = some r →
      ∃ P, P ∈ occurrences cfg .ascii h (n0 :: ns) ∧ r = calculateScore cfg ext .ascii h (n0 :: ns) P (P + (n0 :: ns).length) ∧
        r.2.head? = bestOccurrence cfg ext .ascii h (n0 :: ns) := by
  have hocc := candsS_positions cfg (normAscii cfg) (n0 :: ns) (List.cons_ne_nil _ _) _ (charClassAscii cfg) h.length
    (fun pos s hp => subAcc_eq_occ cfg n0 ns hn (h.length - (n0 :: ns).length + 1) pos s (by omega))
    h cfg.initial 0 (Nat.zero_add _)
  exact substringScan_spec cfg ext .ascii h n0 ns hb _ (charClassAscii cfg) 0
    (fun x hx => by rw [charClass, if_pos (hasc x hx)]) hocc.symm _ (substringAscii_go_eq cfg _ _ _ _ h _ _ _)

/-- Substring matching on an ASCII haystack succeeds exactly when the needle occurs contiguously in the normalized
    haystack, and reports the leftmost occurrence whose first character earns the highest bonus — every configuration
    whose largest boundary bonus is at least 8 (all presets), every already-normalized needle no longer than the haystack. -/
theorem C05_substring_ascii (cfg : Cfg) (ext : Ext) (h : List Nat) (n0 : Nat) (ns : List Nat)
    (hb : 8 ≤ maxBonus cfg) (hasc : ∀ x ∈ h, x < 128) (hn : ∀ c ∈ n0 :: ns, normAscii cfg c = c)
    (hlen : (n0 :: ns).length ≤ h.length) :
    (substringAscii cfg ext h (n0 :: ns)).isSome = !(occurrences cfg .ascii h (n0 :: ns)).isEmpty ∧
    ∀ sc idx, substringAscii cfg ext h (n0 :: ns) = some (sc, idx) → idx.head? = bestOccurrence cfg ext .ascii h (n0 :: ns) :=
  ⟨(substringAscii_spec cfg ext h n0 ns hb hasc hn hlen).1, fun _ _ hres =>
    let ⟨_, _, _, hhead⟩ := (substringAscii_spec cfg ext h n0 ns hb hasc hn hlen).2 _ hres; hhead⟩

end NucleoVerif
