import NucleoVerif.Props.C15_AtomDecision
import NucleoVerif.Props.C16
/-! # C07 (companion file) — the continued last atom narrows, for every kind at once

`kindDec_narrows` is the list fact, on the decision predicates of `C15_atom_decision`; `fuzzy_narrows` and `algo_narrows`
carry it to the matcher model, where a map `g` takes the haystack as the new atom normalizes it to the haystack as the old
atom does.  `C07_atom_narrows` is the statement for two atoms related by `AtomRel` — including the changes of kind that
appended text can cause (`foo` → `foo$`: fuzzy → postfix; `'foo` → `'foo$`, `^foo` → `^foo$`: → exact), an upper-case
letter that switches smart case off, and one-character needles. -/
namespace NucleoVerif
open Gen Spec NucleoVerif.Sub

theorem subseqB_narrows (g : Nat → Nat) {na nb L : List Nat} (hsub : na.Sublist (nb.map g)) (hm : subseqB nb L = true) :
    subseqB na (L.map g) = true := by
  rw [subseqB_iff_sublist] at hm ⊢
  exact hsub.trans (hm.map g)

theorem Occ.map {n L : List Nat} {i : Nat} (g : Nat → Nat) (h : Occ n L i) : Occ (n.map g) (L.map g) i := by
  refine ⟨by simpa using h.1, ?_⟩
  rw [← List.map_drop, List.length_map, ← List.map_take, h.2]

theorem Occ.of_needle_prefix {na nb L : List Nat} {i : Nat} (hp : na <+: nb) (h : Occ nb L i) : Occ na L i := by
  obtain ⟨s, rfl⟩ := hp
  refine ⟨by have := h.1; rw [List.length_append] at this; omega, ?_⟩
  have := congrArg (List.take na.length) h.2
  rw [List.take_take, List.length_append, Nat.min_eq_left (Nat.le_add_right _ _), List.take_left' rfl] at this
  exact this

theorem Occ.sublist {n L : List Nat} {i : Nat} (h : Occ n L i) : n.Sublist L := by
  rw [← h.2]
  exact (List.take_sublist _ _).trans (List.drop_sublist _ _)

theorem kindDec_prefix_iff {hrep : Rep} {h L n : List Nat} (hL : L.length = h.length) :
    kindDec .prefix hrep h L n = true ↔ Occ n L (if isWs (n.head?.getD 0) then 0 else lead hrep h) := by
  simp only [kindDec, Bool.and_eq_true, decide_eq_true_eq, beq_iff_eq, Occ, hL]

theorem Occ.of_postfix {hrep : Rep} {h L n : List Nat} (hL : L.length = h.length) (hm : kindDec .postfix hrep h L n = true) :
    ∃ i, Occ n L i := by
  simp only [kindDec, Bool.and_eq_true, decide_eq_true_eq, beq_iff_eq] at hm
  exact ⟨_, by rw [hL]; omega, hm.2⟩

theorem Occ.of_exact {hrep : Rep} {h L n : List Nat} (hL : L.length = h.length) (hm : kindDec .exact hrep h L n = true) :
    Occ n L (if isWs (n.head?.getD 0) then 0 else lead hrep h) := by
  simp only [kindDec, Bool.and_eq_true, decide_eq_true_eq, beq_iff_eq] at hm
  obtain ⟨⟨h1, h2⟩, h3⟩ := hm
  rw [h3] at h2
  exact ⟨by rw [hL]; omega, h2⟩

/-- **the list fact behind every narrowing**: `L` is the haystack as the new atom normalizes it, `g` takes it to the
    haystack as the old atom normalizes it and leaves the old needle alone -/
theorem kindDec_narrows (ka kb : AtomKind) (hrep : Rep) (h L na nb : List Nat) (g : Nat → Nat) (hL : L.length = h.length)
    (hkinds : (ka = kb ∧ ka ≠ .postfix ∧ ka ≠ .exact) ∨ (ka = .fuzzy ∧ kb = .postfix) ∨ (ka = .substring ∧ kb = .exact) ∨ (ka = .prefix ∧ kb = .exact))
    (hneedle : na <+: nb ∨ (ka = .fuzzy ∧ na.Sublist nb)) (hne : na ≠ []) (hg : na.map g = na)
    (hm : kindDec kb hrep h L nb = true) : kindDec ka hrep h (L.map g) na = true := by
  have hsub : na.Sublist (nb.map g) := by
    rw [← hg]
    rcases hneedle with hp | ⟨_, hs⟩
    · exact hp.sublist.map g
    · exact hs.map g
  -- a fuzzy old atom: any occurrence or embedding of the new needle will do
  have fuzzy_of_sub : nb.Sublist L → kindDec .fuzzy hrep h (L.map g) na = true :=
    fun hs => subseqB_narrows g hsub ((subseqB_iff_sublist _ _).mpr hs)
  have occ : ka ≠ .fuzzy → ∀ i, Occ nb L i → Occ na (L.map g) i := by
    intro hk i ho
    have := (ho.of_needle_prefix (hneedle.resolve_right (fun h => hk h.1))).map g
    rwa [hg] at this
  have hLg : (L.map g).length = h.length := by rw [List.length_map, hL]
  have hhead : ka ≠ .fuzzy → nb.head?.getD 0 = na.head?.getD 0 := by
    intro hk
    obtain ⟨s, rfl⟩ := hneedle.resolve_right (fun h => hk h.1)
    cases na with
    | nil => exact absurd rfl hne
    | cons x xs => rfl
  rcases hkinds with ⟨rfl, hk1, hk2⟩ | ⟨rfl, rfl⟩ | ⟨rfl, rfl⟩ | ⟨rfl, rfl⟩
  · cases ka with
    | fuzzy => exact fuzzy_of_sub ((subseqB_iff_sublist _ _).mp hm)
    | substring =>
      obtain ⟨i, hi⟩ := (occ_nonempty_iff nb L).mp hm
      exact (occ_nonempty_iff na _).mpr ⟨i, occ (by simp) i hi⟩
    | «prefix» =>
      rw [kindDec_prefix_iff hL, hhead (by simp)] at hm
      exact (kindDec_prefix_iff hLg).mpr (occ (by simp) _ hm)
    | «postfix» => exact absurd rfl hk1
    | «exact» => exact absurd rfl hk2
  · obtain ⟨i, hi⟩ := Occ.of_postfix hL hm
    exact fuzzy_of_sub hi.sublist
  · exact (occ_nonempty_iff na _).mpr ⟨_, occ (by simp) _ (Occ.of_exact hL hm)⟩
  · have := Occ.of_exact hL hm
    rw [hhead (by simp)] at this
    exact (kindDec_prefix_iff hLg).mpr (occ (by simp) _ this)

theorem normHay_map (g : Nat → Nat) (cfg cfg' : Cfg) (hrep : Rep) (h : List Nat)
    (hg : ∀ c, g (norm cfg' hrep c) = norm cfg hrep c) :
    (normHay cfg' hrep h).map g = normHay cfg hrep h := by
  unfold normHay
  rw [List.map_map]
  exact List.map_congr_left (fun c _ => hg c)

theorem norm_ignoreCase (cfg : Cfg) (c : Nat) :
    toLower (norm { cfg with ignoreCase := false } .unicode c) = norm { cfg with ignoreCase := true } .unicode c := by
  simp [norm, normChar]

theorem norm_ignoreCase_ascii (cfg : Cfg) (c : Nat) :
    asciiLower (norm { cfg with ignoreCase := false } .ascii c) = norm { cfg with ignoreCase := true } .ascii c := by
  simp [norm, normAscii, asciiLower]

theorem map_asciiLower {n : List Nat} (hlow : ∀ c ∈ n, ¬ (65 ≤ c ∧ c ≤ 90)) : n.map asciiLower = n :=
  map_eq_self _ _ fun c hc => if_neg (hlow c hc)

theorem norm_normalize (cfg : Cfg) (c : Nat) :
    normalizeLatin (norm { cfg with ignoreCase := false, normalize := false } .unicode c) =
      norm { cfg with ignoreCase := false, normalize := true } .unicode c := by
  simp [norm, normChar]

/-- unprimed (`cfg`, `nrep`, `n`): the old atom; primed: the new one, whose matches the old one had -/
theorem fuzzy_narrows (cfg cfg' : Cfg) (ext : Ext) (hrep nrep nrep' : Rep) (h n n' : List Nat) (g : Nat → Nat)
    (hk : ¬ (hrep = .ascii ∧ nrep = .unicode)) (hk' : ¬ (hrep = .ascii ∧ nrep' = .unicode))
    (hg : ∀ c, g (norm cfg' hrep c) = norm cfg hrep c) (hsub : n.Sublist (n'.map g))
    (hn : n.map (norm cfg nrep) = n) (hn' : n'.map (norm cfg' nrep') = n')
    (hm : (fuzzyMatch cfg' ext hrep nrep' h n').isSome = true) : (fuzzyMatch cfg ext hrep nrep h n).isSome = true := by
  rw [C01_decision cfg' ext hrep nrep' h n' hk' hn'] at hm
  rw [C01_decision cfg ext hrep nrep h n hk hn, ← normHay_map g cfg cfg' hrep h hg]
  exact subseqB_narrows g hsub hm

/-- the same for every kind (`ka`, `na`: old; `kb`, `nb`: new) -/
theorem algo_narrows (ka kb : AtomKind) (cfg cfg' : Cfg) (ext : Ext) (hrep nrep nrep' : Rep) (h na nb : List Nat)
    (g : Nat → Nat) (hk : ¬ (hrep = .ascii ∧ nrep = .unicode)) (hk' : ¬ (hrep = .ascii ∧ nrep' = .unicode))
    (hasc : hrep = .ascii → ∀ x ∈ h, x < 128)
    (hb : ka = .substring → 8 ≤ maxBonus cfg ∧ 8 ≤ maxBonus cfg') (hg : ∀ c, g (norm cfg' hrep c) = norm cfg hrep c)
    (hkinds : (ka = kb ∧ ka ≠ .postfix ∧ ka ≠ .exact) ∨ (ka = .fuzzy ∧ kb = .postfix) ∨
      (ka = .substring ∧ kb = .exact) ∨ (ka = .prefix ∧ kb = .exact))
    (hneedle : na <+: nb ∨ (ka = .fuzzy ∧ na.Sublist nb)) (hne : na ≠ []) (hgn : na.map g = na)
    (hn : na.map (norm cfg nrep) = na) (hn' : nb.map (norm cfg' nrep') = nb)
    (hm : (kb.algo.run cfg' ext hrep nrep' h nb).isSome = true) : (ka.algo.run cfg ext hrep nrep h na).isSome = true := by
  obtain ⟨a0, as, rfl⟩ := List.exists_cons_of_ne_nil hne
  have hsub : (a0 :: as).Sublist nb := hneedle.elim (·.sublist) (·.2)
  obtain ⟨b0, bs, rfl⟩ : ∃ b0 bs, nb = b0 :: bs := by
    cases nb with
    | nil => cases hsub
    | cons x xs => exact ⟨x, xs, rfl⟩
  have hb' : kb = .substring → 8 ≤ maxBonus cfg' := by
    intro e
    rcases hkinds with ⟨rfl, _⟩ | ⟨_, rfl⟩ | ⟨_, rfl⟩ | ⟨_, rfl⟩
    · exact (hb e).2
    all_goals cases e
  rw [algo_decision kb cfg' ext hrep nrep' h b0 bs hk' hasc hb' hn'] at hm
  rw [algo_decision ka cfg ext hrep nrep h a0 as hk hasc (fun e => (hb e).1) hn, ← normHay_map g cfg cfg' hrep h hg]
  exact kindDec_narrows ka kb hrep h _ _ _ g (by simp [normHay]) hkinds hneedle hne hgn hm

/-- how the atom `b` parsed from a continued piece of ASCII pattern text relates to the atom `a` parsed from the piece
    (`C07_parse_append_rel` proves that the parser produces exactly this) -/
structure AtomRel (a b : Atom) : Prop where
  negA : a.negative = false
  negB : b.negative = false
  repA : a.needleRep = .ascii
  repB : b.needleRep = .ascii
  nz : a.normalize = b.normalize
  kinds : (a.kind = b.kind ∧ a.kind ≠ .postfix ∧ a.kind ≠ .exact) ∨ (a.kind = .fuzzy ∧ b.kind = .postfix) ∨
          (a.kind = .substring ∧ b.kind = .exact) ∨ (a.kind = .prefix ∧ b.kind = .exact)
  needle : a.needle <+: b.needle ∨ (a.kind = .fuzzy ∧ a.needle.Sublist b.needle)
  ne : a.needle ≠ []
  icase : a.ignoreCase = b.ignoreCase ∨ (a.ignoreCase = true ∧ b.ignoreCase = false)
  lowA : a.ignoreCase = true → ∀ c ∈ a.needle, ¬ (65 ≤ c ∧ c ≤ 90)
  lowB : b.ignoreCase = true → ∀ c ∈ b.needle, ¬ (65 ≤ c ∧ c ≤ 90)
  ascA : ∀ c ∈ a.needle, c < 128

theorem AtomRel.sublist {a b : Atom} (r : AtomRel a b) : a.needle.Sublist b.needle := by
  rcases r.needle with hp | ⟨_, hs⟩
  · exact hp.sublist
  · exact hs

theorem needle_normalized (a : Atom) (cfg : Cfg) (low : a.ignoreCase = true → ∀ c ∈ a.needle, ¬ (65 ≤ c ∧ c ≤ 90)) :
    a.needle.map (norm (a.cfg cfg) .ascii) = a.needle := by
  apply map_eq_self
  intro c hc
  show normAscii (a.cfg cfg) c = c
  unfold normAscii
  split
  · next h => exact absurd h.2 (low h.1 c hc)
  · rfl

/-- **the continued atom matches only what the atom matched** — every configuration whose largest boundary bonus is at
    least 8, every haystack in either representation -/
theorem C07_atom_narrows (a b : Atom) (r : AtomRel a b) (cfg : Cfg) (ext : Ext) (hrep : Rep) (h : List Nat)
    (hasc : hrep = .ascii → ∀ x ∈ h, x < 128) (hb : 8 ≤ maxBonus cfg)
    (hm : (b.eval cfg ext hrep h).isSome = true) : (a.eval cfg ext hrep h).isSome = true := by
  rw [(C15_atom b cfg ext hrep h).2 r.negB] at hm
  rw [(C15_atom a cfg ext hrep h).2 r.negA]
  unfold Atom.innerMatch at hm ⊢
  rw [r.repA]; rw [r.repB] at hm
  -- `g` is `id` when the flags agree and lower-casing when `b` has dropped `ignore_case`; it fixes `a`'s needle, which
  -- then has no upper-case letter (`lowA`)
  have main : ∀ g : Nat → Nat, (∀ c, g (norm (b.cfg cfg) hrep c) = norm (a.cfg cfg) hrep c) →
      a.needle.map g = a.needle →
      (a.kind.algo.run (a.cfg cfg) ext hrep .ascii h a.needle).isSome = true := fun g hg hgn =>
    algo_narrows a.kind b.kind (a.cfg cfg) (b.cfg cfg) ext hrep .ascii .ascii h a.needle b.needle g (hk := nofun)
      (hk' := nofun) hasc (fun _ => ⟨hb, hb⟩) hg r.kinds r.needle r.ne hgn (needle_normalized a cfg r.lowA)
      (needle_normalized b cfg r.lowB) hm
  rcases r.icase with hic | ⟨hia, hib⟩
  · have ecfg : a.cfg cfg = b.cfg cfg := by unfold Atom.cfg; rw [hic, r.nz]
    exact main id (fun c => by rw [ecfg]; rfl) (List.map_id _)
  · have ecfgb : b.cfg cfg = { (b.cfg cfg) with ignoreCase := false } := by unfold Atom.cfg; rw [hib]
    have ecfga : a.cfg cfg = { (b.cfg cfg) with ignoreCase := true } := by unfold Atom.cfg; rw [hia, r.nz]
    cases hrep with
    | ascii =>
      exact main asciiLower (fun c => by rw [ecfga, ecfgb]; exact norm_ignoreCase_ascii _ c)
        (map_asciiLower (r.lowA hia))
    | unicode =>
      refine main toLower (fun c => by rw [ecfga, ecfgb]; exact norm_ignoreCase _ c) (map_eq_self _ _ fun c hc => ?_)
      rw [C16_fold_ascii c (r.ascA c hc), if_neg (r.lowA hia c hc)]

end NucleoVerif
