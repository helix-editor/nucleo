import NucleoVerif.Props.C07_Quiescent
/-! # C07/C06 (companion file) — runs that are cancelled part-way

A cancelled run leaves the match list half-processed; `Loose` is what is still true then.  Every run, cancelled at any
point or not, ends in a `Loose` state for its pattern, and a completed run after an appended edit turns a `Loose` state
for the old pattern into the right list for the new one: so an appended edit that arrives while the previous run is
being cancelled is handled correctly. -/
namespace NucleoVerif.Nu

variable (score : Nat → Item → Option Nat) (len : Item → Nat)

theorem mem_realIdx (hits : List Match) (i : Nat) : i ∈ realIdx hits ↔ ∃ m ∈ hits, isPlace m = false ∧ m.idx = i := by
  unfold realIdx
  simp only [List.mem_map, List.mem_filter, Bool.not_eq_true']
  constructor
  · rintro ⟨m, ⟨h1, h2⟩, h3⟩
    exact ⟨m, h1, h2, h3⟩
  · rintro ⟨m, h1, h2, h3⟩
    exact ⟨m, ⟨h1, h2⟩, h3⟩

/-- what survives a cancelled run -/
structure Loose (S : Nat → Option Item) (p : Nat) (w : Worker) : Prop where
  bk : BK w
  /-- the real (non-placeholder) entries are distinct (`nodup`) accounted items (`sub`) -/
  nodup : (realIdx w.hits).Nodup
  sub : ∀ i ∈ realIdx w.hits, i ∈ processed w
  /-- every accounted item that matches `p` is still listed (possibly with a stale score, among left-over placeholders) -/
  sup : ∀ i ∈ processed w, ((S i).bind (score p)).isSome = true → i ∈ realIdx w.hits
  /-- placeholders have score 0, so that a later sort puts them behind every real entry -/
  place0 : ∀ m ∈ w.hits, isPlace m = true → m.score = 0

theorem Good.loose {S : Nat → Option Item} {w : Worker} (g : Good score S w) (hlt : w.lastSnapshot < PLACE) :
    Loose score S w.pattern w := by
  have hne : ∀ i ∈ processed w, i ≠ PLACE := fun i hi => Nat.ne_of_lt (Nat.lt_trans (processed_lt w i hi) hlt)
  have hperm := realIdx_of_right score S w.pattern w.hits _ hne g.right
  refine ⟨g.bk, hperm.nodup_iff.mpr ((keepIdx_nodup _ _).filter _), fun i hi => (List.mem_filter.mp (hperm.subset hi)).1,
    fun i hi hm => hperm.symm.subset (List.mem_filter.mpr ⟨hi, hm⟩), fun m hm hp => ?_⟩
  rw [idealHits_notPlace score S w.pattern _ hne m (g.right.subset hm)] at hp
  cases hp

theorem Loose.narrow {S : Nat → Option Item} {pOld pNew : Nat} {w : Worker} (l : Loose score S pOld w)
    (hsound : ∀ it, (score pNew it).isSome = true → (score pOld it).isSome = true) : Loose score S pNew w := by
  refine ⟨l.bk, l.nodup, l.sub, fun i hi hm => l.sup i hi ?_, l.place0⟩
  cases hS : S i with
  | none => rw [hS] at hm; cases hm
  | some it => rw [hS] at hm; exact hsound it hm

theorem Loose.congr {S : Nat → Option Item} {p : Nat} {w w' : Worker} (l : Loose score S p w)
    (h1 : w'.hits = w.hits) (h2 : w'.inFlight = w.inFlight) (h3 : w'.lastSnapshot = w.lastSnapshot) : Loose score S p w' := by
  have ep := processed_congr h2 h3
  exact ⟨l.bk.congr h2 h3, h1 ▸ l.nodup, h1 ▸ ep ▸ l.sub, h1 ▸ ep ▸ l.sup, h1 ▸ l.place0⟩

theorem idealHits_sandwich (S : Nat → Option Item) (p : Nat) (Q P : List Nat) (hQ : Q.Nodup) (hP : P.Nodup)
    (hsub : ∀ i ∈ Q, i ∈ P) (hsup : ∀ i ∈ P, ((S i).bind (score p)).isSome = true → i ∈ Q) :
    (idealHits score S p Q).Perm (idealHits score S p P) := by
  rw [← idealHits_filter score S p _ Q (fun _ _ h => h), ← idealHits_filter score S p _ P (fun _ _ h => h)]
  apply idealHits_perm
  rw [List.perm_ext_iff_of_nodup (hQ.filter _) (hP.filter _)]
  intro i
  simp only [List.mem_filter]
  exact ⟨fun ⟨h1, h2⟩ => ⟨hsub i h1, h2⟩, fun ⟨h1, h2⟩ => ⟨hsup i h1 h2, h2⟩⟩

/-- C06, the run contract for an appended edit from a loose state: a completed `Update` run rescoring a list that still
    contains every accounted item matching the (new) pattern makes the list exactly right, whatever a cancelled run
    left behind (stale scores, placeholders, unsorted order) -/
theorem C06_update_run_contract_loose (S : Nat → Option Item) (w : Worker) (o : Obs) (env : RunEnv S w o)
    (l : Loose score S w.pattern w) (w' : Worker) (hw'def : w' = (Worker.run score len w .update false false o).1) :
    w'.hits.Perm (idealHits score S w'.pattern (processed w')) ∧ w'.hits.Pairwise (mle len o.seen1) ∧
    BK w' ∧ w'.itemCount = (processed w').length ∧ w'.lastSnapshot = o.count ∧ w'.wasCanceled = false :=
  update_pass_contract score len S (w.begin false) o (l.bk.congr rfl rfl) env.begin l.sub
    (idealHits_sandwich score S w.pattern _ _ l.nodup (keepIdx_nodup _ _) l.sub l.sup) l.place0 w' hw'def

/-- `RunEnv` without the assumptions about the cancel flag -/
structure ObsEnv (S : Nat → Option Item) (w : Worker) (o : Obs) : Prop where
  mono : ∀ i it, o.seen0 i = some it → o.seen1 i = some it
  sound1 : ∀ i it, o.seen1 i = some it → S i = some it
  processed : ∀ i, i < w.lastSnapshot → i ∉ w.inFlight → o.seen1 i = S i
  countGe : w.lastSnapshot ≤ o.count
  countLt : o.count < PLACE
  order : ∀ l, (o.inFlightOrder l).Perm l

theorem RunEnv.obsEnv {S : Nat → Option Item} {w : Worker} {o : Obs} (e : RunEnv S w o) : ObsEnv S w o :=
  ⟨e.mono, e.sound1, e.processed, e.countGe, e.countLt, e.order⟩

/-- an index a pass newly accounts for is one it saw published: an old in-flight index at its first look, a new slot
    when it took its snapshot -/
theorem Tracks.seen {S : Nat → Option Item} {o : Obs} {w w' : Worker} (t : Tracks o w w') (env : ObsEnv S w o) (i : Nat)
    (hi : i ∈ processed w') : i ∈ processed w ∨ ∃ it, o.seen1 i = some it ∧ S i = some it := by
  obtain ⟨q, hq, hfl⟩ := t.inFlight
  rw [mem_processed, t.last] at hi
  obtain ⟨hlt, hnot⟩ := hi
  by_cases hold : i < w.lastSnapshot
  · by_cases hin : i ∈ w.inFlight
    · cases h0 : o.seen0 i with
      | some it => exact Or.inr ⟨it, env.mono i it h0, env.sound1 i it (env.mono i it h0)⟩
      | none =>
        exact absurd (hfl.symm.subset (List.mem_append_left _ (List.mem_filter.mpr ⟨hin, hq i (by rw [h0]; rfl)⟩))) hnot
    · exact Or.inl ((mem_processed w i).mpr ⟨hold, hin⟩)
  · cases h1 : o.seen1 i with
    | some it => exact Or.inr ⟨it, rfl, env.sound1 i it h1⟩
    | none =>
      have hnew := (mem_newSlots w.lastSnapshot o.count env.countGe i).mpr ⟨Nat.le_of_not_lt hold, hlt⟩
      exact absurd (hfl.symm.subset (List.mem_append_right _ (List.mem_filter.mpr ⟨hnew, by rw [h1]; rfl⟩))) hnot

theorem Loose.of_fresh (S : Nat → Option Item) (p : Nat) (w : Worker) (bk : BK w) (hlt : w.lastSnapshot < PLACE)
    (hh : w.hits = (processed w).map mk0) : Loose score S p w := by
  have hreal : realIdx w.hits = processed w := by
    rw [hh, realIdx_map_mk0 _ (fun i hi => Nat.ne_of_lt (Nat.lt_trans (processed_lt w i hi) hlt))]
  refine ⟨bk, hreal ▸ keepIdx_nodup _ _, fun i hi => hreal ▸ hi, fun i hi _ => hreal ▸ hi, fun m hm _ => ?_⟩
  rw [hh] at hm
  obtain ⟨i, _, rfl⟩ := List.mem_map.mp hm
  rfl

/-- a step that accounts for the further indices `D` and appends entries `E` covering the matches among `D` -/
theorem Loose.extend {S : Nat → Option Item} {p : Nat} {w w' : Worker} (l : Loose score S p w) (bk' : BK w')
    (E : List Match) (D : List Nat) (hh : w'.hits = w.hits ++ E) (hp : (processed w').Perm (processed w ++ D))
    (hnd : (realIdx E).Nodup) (hsub : ∀ i ∈ realIdx E, i ∈ D)
    (hsup : ∀ i ∈ D, ((S i).bind (score p)).isSome = true → i ∈ realIdx E)
    (h0 : ∀ m ∈ E, isPlace m = true → m.score = 0) : Loose score S p w' := by
  have hdisj : ∀ a ∈ processed w, ∀ b ∈ D, a ≠ b := (List.nodup_append.mp (hp.nodup_iff.mp (keepIdx_nodup _ _))).2.2
  refine ⟨bk', ?_, ?_, ?_, ?_⟩
  · rw [hh, realIdx_append, List.nodup_append]
    exact ⟨l.nodup, hnd, fun a ha b hb => hdisj a (l.sub a ha) b (hsub b hb)⟩
  · intro i hi
    rw [hh, realIdx_append] at hi
    exact hp.symm.subset (List.mem_append.mpr ((List.mem_append.mp hi).imp (l.sub i) (hsub i)))
  · intro i hi hm
    rw [hh, realIdx_append]
    exact List.mem_append.mpr ((List.mem_append.mp (hp.subset hi)).imp (fun h => l.sup i h hm) (fun h => hsup i h hm))
  · intro m hm hp'
    rw [hh] at hm
    exact (List.mem_append.mp hm).elim (fun h => l.place0 m h hp') (fun h => h0 m h hp')

theorem Loose.trivial {S : Nat → Option Item} {p : Nat} {w : Worker} (l : Loose score S p w) (seen : Nat → Option Item) (count : Nat)
    (hc : w.lastSnapshot ≤ count) (hlt : count < PLACE) : Loose score S p (processTrivial w seen count) := by
  have hne : ∀ i ∈ (newSlots w.lastSnapshot count).filter (fun i => (seen i).isSome), i ≠ PLACE :=
    fun i hi => Nat.ne_of_lt (Nat.lt_trans ((mem_newSlots _ _ hc i).mp (List.mem_filter.mp hi).1).2 hlt)
  refine l.extend score
    (BK_of_parts _ _ _ count seen hc l.bk.nodup l.bk.below (List.Perm.of_eq (processTrivial_spec w seen count).2.1)
      (processTrivial_spec w seen count).2.2.1) _ _ (processTrivial_spec w seen count).1
    (List.Perm.of_eq (processed_trivial_eq w seen count l.bk.below hc)) ?_ ?_ ?_ ?_
  · rw [realIdx_map_mk0 _ hne]; exact (newSlots_nodup _ _).filter _
  · rw [realIdx_map_mk0 _ hne]; exact fun i hi => hi
  · rw [realIdx_map_mk0 _ hne]; exact fun i hi _ => hi
  · intro m hm _
    obtain ⟨i, _, rfl⟩ := List.mem_map.mp hm
    rfl

/-- what a pass may do to one entry, interrupted or not: leave it, replace it by a real entry for the same index, or —
    only if the item at its index does not match (`q` fails) — by a placeholder of score 0 -/
def EntryStep (q : Nat → Bool) (m m' : Match) : Prop :=
  m' = m ∨ (isPlace m = false ∧ isPlace m' = false ∧ m'.idx = m.idx) ∨ (q m.idx = false ∧ m' = ⟨0, PLACE⟩)

theorem EntryStep.rescoreOne (p : Nat) (seen : Nat → Option Item) (m : Match) :
    EntryStep (fun i => ((seen i).bind (score p)).isSome) m (rescoreOne score p seen m) := by
  unfold Nu.rescoreOne
  by_cases hp : m.idx = PLACE
  · rw [if_pos hp]; exact Or.inl rfl
  · rw [if_neg hp]
    cases hs : (seen m.idx).bind (score p) with
    | none => exact Or.inr (Or.inr ⟨by simp only [hs]; rfl, rfl⟩)
    | some s => exact Or.inr (Or.inl ⟨by simp [isPlace, hp], by simp [isPlace, hp], rfl⟩)

theorem realIdx_steps {α : Type} (q : Nat → Bool) (g g' : α → Match) (xs : List α)
    (hstep : ∀ x ∈ xs, EntryStep q (g x) (g' x)) :
    (realIdx (xs.map g')).Sublist (realIdx (xs.map g)) ∧
    (∀ i ∈ realIdx (xs.map g), q i = true → i ∈ realIdx (xs.map g')) ∧
    ((∀ m ∈ xs.map g, isPlace m = true → m.score = 0) → ∀ m ∈ xs.map g', isPlace m = true → m.score = 0) := by
  refine ⟨?_, fun i hi hq => ?_, fun h0 m' hm' hp => ?_⟩
  · induction xs with
    | nil => exact List.Sublist.refl _
    | cons x t ih =>
      have iht := ih (fun y hy => hstep y (List.mem_cons_of_mem _ hy))
      rw [List.map_cons, List.map_cons, realIdx_cons, realIdx_cons]
      rcases hstep x List.mem_cons_self with h | ⟨h1, h2, h3⟩ | ⟨_, h⟩
      · rw [h]
        split
        · exact iht
        · exact iht.cons_cons _
      · rw [h1, h2, h3]
        exact iht.cons_cons _
      · have hpl : isPlace (⟨0, PLACE⟩ : Match) = true := rfl
        rw [h, hpl, if_pos rfl]
        split
        · exact iht
        · exact iht.cons _
  · obtain ⟨m, hm, hreal, rfl⟩ := (mem_realIdx _ _).mp hi
    obtain ⟨x, hx, rfl⟩ := List.mem_map.mp hm
    refine (mem_realIdx _ _).mpr ⟨g' x, List.mem_map_of_mem hx, ?_⟩
    rcases hstep x hx with h | ⟨_, h2, h3⟩ | ⟨h, _⟩
    · rw [h]; exact ⟨hreal, rfl⟩
    · exact ⟨h2, h3⟩
    · rw [h] at hq; cases hq
  · obtain ⟨x, hx, rfl⟩ := List.mem_map.mp hm'
    rcases hstep x hx with h | ⟨_, h2, _⟩ | ⟨_, h⟩
    · rw [h] at hp ⊢; exact h0 _ (List.mem_map_of_mem hx) hp
    · rw [h2] at hp; cases hp
    · rw [h]

theorem Loose.rescored {S : Nat → Option Item} {w : Worker} (l : Loose score S w.pattern w) (o : Obs)
    (hS : ∀ i ∈ processed w, o.seen1 i = S i) : Loose score S w.pattern (rescore score w o).1 := by
  obtain ⟨k1, k2, k3⟩ := realIdx_steps (fun i => ((o.seen1 i).bind (score w.pattern)).isSome) Prod.fst
    (fun x => if o.sawCancelRescore x.2 then x.1 else rescoreOne score w.pattern o.seen1 x.1) w.hits.zipIdx
    (fun x _ => by
      split
      · exact Or.inl rfl
      · exact EntryStep.rescoreOne score _ _ _)
  rw [List.zipIdx_map_fst] at k1 k2 k3
  exact ⟨l.bk.congr rfl rfl, k1.nodup l.nodup, fun i hi => l.sub i (k1.subset hi),
    fun i hi hm => k2 i (l.sup i hi hm) (by rw [hS i hi]; exact hm), k3 l.place0⟩

theorem EntryStep.scoreNewSlot (p : Nat) (o : Obs) (pubPos : Nat → Nat) (i : Nat) (hi : i ≠ PLACE) :
    EntryStep (fun j => ((o.seen1 j).bind (score p)).isSome) (mk0 i) (scoreNewSlot score p o pubPos i) := by
  unfold Nu.scoreNewSlot
  cases hs : o.seen1 i with
  | none => exact Or.inr (Or.inr ⟨by simp only [mk0, hs]; rfl, rfl⟩)
  | some it =>
    simp only
    split
    · exact Or.inl rfl
    · unfold scoreNewItem
      cases hsc : score p it with
      | none => exact Or.inr (Or.inr ⟨by simp [mk0, hs, hsc], rfl⟩)
      | some s => exact Or.inr (Or.inl ⟨by simp [isPlace, mk0, hi], by simp [isPlace, hi], rfl⟩)

theorem scoreNewSlot_real (p : Nat) (o : Obs) (pubPos : Nat → Nat) (i : Nat)
    (h : isPlace (scoreNewSlot score p o pubPos i) = false) :
    (scoreNewSlot score p o pubPos i).idx = i ∧ (o.seen1 i).isSome = true := by
  unfold Nu.scoreNewSlot at h ⊢
  cases hs : o.seen1 i with
  | none => rw [hs] at h; cases h
  | some it =>
    rw [hs] at h
    simp only at h ⊢
    split
    · exact ⟨rfl, rfl⟩
    · rename_i hc
      rw [if_neg hc] at h
      unfold scoreNewItem at h ⊢
      cases hsc : score p it with
      | none => rw [hsc] at h; cases h
      | some s => exact ⟨rfl, rfl⟩

theorem Loose.newItems {S : Nat → Option Item} {w : Worker} (l : Loose score S w.pattern w) (o : Obs) (env : ObsEnv S w o) :
    Loose score S w.pattern (processNew score w o).1 := by
  obtain ⟨pubPos, hh, _, _, _⟩ := processNew_spec score w o env.order
  have hp := processed_processNew score w o l.bk env.countGe env.order
  have hnew := mem_newSlots w.lastSnapshot o.count env.countGe
  have hnew_nd := newSlots_nodup w.lastSnapshot o.count
  generalize newSlots w.lastSnapshot o.count = new at hh hp hnew hnew_nd
  have hlt : ∀ {i}, i < o.count → i ≠ PLACE := fun h => Nat.ne_of_lt (Nat.lt_trans h env.countLt)
  have hnow : ∀ i ∈ w.inFlight.filter (fun i => (o.seen0 i).isSome), i < w.lastSnapshot ∧ o.seen0 i = S i := by
    intro i hi
    obtain ⟨h1, h2⟩ := List.mem_filter.mp hi
    refine ⟨l.bk.below i h1, ?_⟩
    cases hs : o.seen0 i with
    | none => rw [hs] at h2; cases h2
    | some it => exact (env.sound1 i it (env.mono i it hs)).symm
  have hnow_nd : (w.inFlight.filter (fun i => (o.seen0 i).isSome)).Nodup := l.bk.nodup.filter _
  generalize w.inFlight.filter (fun i => (o.seen0 i).isSome) = nowPub at hh hp hnow hnow_nd
  have hnow_ne : ∀ i ∈ nowPub, i ≠ PLACE := fun i hi => hlt (Nat.lt_of_lt_of_le (hnow i hi).1 env.countGe)
  obtain ⟨s1, s3, s4⟩ := realIdx_steps (fun j => ((o.seen1 j).bind (score w.pattern)).isSome) mk0
    (scoreNewSlot score w.pattern o pubPos) new (fun i hi => EntryStep.scoreNewSlot score _ o pubPos i (hlt ((hnew i).mp hi).2))
  rw [realIdx_map_mk0 _ (fun i hi => hlt ((hnew i).mp hi).2)] at s1 s3
  have s2 : ∀ i ∈ realIdx (new.map (scoreNewSlot score w.pattern o pubPos)),
      i ∈ new.filter (fun i => (o.seen1 i).isSome) := by
    intro i hi
    obtain ⟨m, hm, hreal, rfl⟩ := (mem_realIdx _ _).mp hi
    obtain ⟨j, hj, rfl⟩ := List.mem_map.mp hm
    obtain ⟨e1, e2⟩ := scoreNewSlot_real score _ o pubPos j hreal
    rw [e1]
    exact List.mem_filter.mpr ⟨hj, e2⟩
  refine l.extend score ((processNew_tracks score o w env.order).bk l.bk env.countGe)
    (idealHits score o.seen0 w.pattern nowPub ++ new.map (scoreNewSlot score w.pattern o pubPos))
    (nowPub ++ new.filter (fun i => (o.seen1 i).isSome)) (by rw [hh, List.append_assoc]) (by rw [← List.append_assoc]; exact hp)
    ?_ ?_ ?_ ?_
  · rw [realIdx_append, realIdx_idealHits score _ _ _ hnow_ne, List.nodup_append]
    refine ⟨hnow_nd.filter _, s1.nodup hnew_nd, fun a ha b hb => ?_⟩
    have := (hnow a (List.mem_filter.mp ha).1).1
    have := ((hnew b).mp (s1.subset hb)).1
    omega
  · intro i hi
    rw [realIdx_append, realIdx_idealHits score _ _ _ hnow_ne] at hi
    exact List.mem_append.mpr ((List.mem_append.mp hi).imp (fun h => (List.mem_filter.mp h).1) (s2 i))
  · intro i hi hm
    rw [realIdx_append, realIdx_idealHits score _ _ _ hnow_ne]
    rcases List.mem_append.mp hi with h | h
    · exact List.mem_append_left _ (List.mem_filter.mpr ⟨h, by rw [(hnow i h).2]; exact hm⟩)
    · obtain ⟨h1, h2⟩ := List.mem_filter.mp h
      refine List.mem_append_right _ (s3 i h1 ?_)
      cases hs : o.seen1 i with
      | none => rw [hs] at h2; cases h2
      | some it => rw [env.sound1 i it hs] at hm; exact hm
  · intro m hm hpl
    rcases List.mem_append.mp hm with h | h
    · rw [idealHits_notPlace score o.seen0 w.pattern nowPub hnow_ne m h] at hpl; cases hpl
    · exact s4 (fun m hm _ => by obtain ⟨i, _, rfl⟩ := List.mem_map.mp hm; rfl) m h hpl

/-- the scoring pass of any run ends in a loose state — full rescoring from intact bookkeeping, or an incremental pass
    from a loose state — whatever it observes of the cancel flag -/
theorem scorePass_loose (S : Nat → Option Item) (w : Worker) (st : PStatus) (o : Obs) (env : ObsEnv S w o)
    (hstart : (st = .rescore ∧ BK w) ∨ Loose score S w.pattern w) :
    Loose score S w.pattern (Worker.scorePass score w st o).1 ∧ (Worker.scorePass score w st o).1.pattern = w.pattern := by
  refine ⟨?_, (scorePass_control score w st o).pattern⟩
  obtain ⟨w1, h1, h2⟩ := scorePass_worker score w st o
  have key : Loose score S w.pattern w1 ∧ ObsEnv S w1 o ∧ w1.pattern = w.pattern := by
    rcases h1 with ⟨_, rfl⟩ | ⟨hst, rfl⟩
    · have bk : BK w := hstart.elim (fun h => h.2) (fun h => h.bk)
      obtain ⟨r1, rbk, r3, _⟩ := resetMatches_fresh w o.seen0 bk
      exact ⟨Loose.of_fresh score S _ _ rbk (r3 ▸ Nat.lt_of_le_of_lt env.countGe env.countLt) r1,
        ⟨env.mono, env.sound1, seen1_after_reset S w o bk env.mono env.sound1 env.processed, r3 ▸ env.countGe, env.countLt,
          env.order⟩,
        rfl⟩
    · exact ⟨hstart.resolve_left (fun h => hst h.1), env, rfl⟩
  obtain ⟨l1, env1, hp1⟩ := key
  rw [← hp1] at l1 ⊢
  rcases h2 with e | e <;> rw [e]
  · have hp2 := (processTrivial_control w1 o.seen1 o.count).pattern
    have l2 := l1.trivial score o.seen1 o.count env1.countGe env1.countLt
    rw [← hp2] at l2 ⊢
    refine l2.rescored score o (fun i hi => ?_)
    rw [processed_trivial_eq w1 o.seen1 o.count l1.bk.below env1.countGe] at hi
    rcases List.mem_append.mp hi with h | h
    · exact env1.processed i ((mem_processed w1 i).mp h).1 ((mem_processed w1 i).mp h).2
    · cases hs : o.seen1 i with
      | none => rw [List.mem_filter, hs] at h; cases h.2
      | some it => exact (env1.sound1 i it hs).symm
  · exact l1.newItems score o env1

/-- every cancelled run ends in a loose state for the worker's pattern: nothing that matches is lost, the bookkeeping is
    intact.  Any status; cancelled at any point of the scoring pass or during the sort. -/
theorem C06_cancelled_run_loose (S : Nat → Option Item) (w : Worker) (st : PStatus) (o : Obs) (env : ObsEnv S w o)
    (hstart : (st = .rescore ∧ BK w) ∨ Loose score S w.pattern w)
    (hc : o.canceled (Worker.scorePass score (w.begin false) st o).2.2 = true) :
    Loose score S w.pattern (Worker.run score len w st false false o).1 ∧
    (Worker.run score len w st false false o).1.wasCanceled = true ∧
    (Worker.run score len w st false false o).1.pattern = w.pattern := by
  obtain ⟨l1, hp⟩ := scorePass_loose score S (w.begin false) st o
    ⟨env.mono, env.sound1, env.processed, env.countGe, env.countLt, env.order⟩
    (hstart.imp (fun h => ⟨h.1, h.2.congr rfl rfl⟩) (fun h => h.congr score rfl rfl rfl))
  rw [run_eq, finish_of_canceled len _ _ _ o hc]
  exact ⟨l1.congr score rfl rfl rfl, rfl, hp⟩

/-- one background run as the tick protocol starts it: the worker is handed the pattern `pNew` with status `st` and
    observes `o` -/
structure RunStep where
  pNew : Nat
  st : PStatus
  o : Obs

def RunStep.start (w : Worker) (s : RunStep) : Worker := { w with pattern := s.pNew }

def RunStep.next (w : Worker) (s : RunStep) : Worker := (Worker.run score len (s.start w) s.st false false s.o).1

structure RunStep.Ok (S : Nat → Option Item) (w : Worker) (s : RunStep) : Prop where
  env : ObsEnv S (s.start w) s.o
  /-- an unchanged-pattern run is only started after a run that completed, with the same pattern -/
  unchanged : s.st = .unchanged → s.pNew = w.pattern ∧ w.wasCanceled = false
  /-- an `Update` run is only started for an appended edit, which can only narrow the matches -/
  update : s.st = .update → ∀ it, (score s.pNew it).isSome = true → (score w.pattern it).isSome = true
  /-- the run sees the cancel flag at some point of its pass, or never -/
  cancel : s.o.canceled (Worker.scorePass score ((s.start w).begin false) s.st s.o).2.2 = true ∨ RunEnv S (s.start w) s.o

/-- the state of the worker between runs: always loose for its pattern; exactly right after a completed run -/
structure Between (S : Nat → Option Item) (w : Worker) : Prop where
  loose : Loose score S w.pattern w
  good : w.wasCanceled = false → Good score S w

theorem Between.congr {Sx : Nat → Option Item} {w w' : Worker} (b : Between score Sx w) (h1 : w'.hits = w.hits) (h2 : w'.inFlight = w.inFlight)
    (h3 : w'.lastSnapshot = w.lastSnapshot) (h4 : w'.pattern = w.pattern) (h5 : w'.wasCanceled = w.wasCanceled) : Between score Sx w' :=
  ⟨by rw [h4]; exact b.loose.congr score h1 h2 h3, fun h => (b.good (by rw [← h5]; exact h)).congr score h1 h2 h3 h4⟩

theorem run_completed (S : Nat → Option Item) (w : Worker) (st : PStatus) (o : Obs) (renv : RunEnv S w o)
    (hstart : (st = .rescore ∧ BK w) ∨ (st = .update ∧ Loose score S w.pattern w) ∨
      (st = .unchanged ∧ Good score S w)) :
    Good score S (Worker.run score len w st false false o).1 ∧
    (Worker.run score len w st false false o).1.hits.Pairwise (mle len o.seen1) ∧
    (Worker.run score len w st false false o).1.lastSnapshot = o.count ∧
    (Worker.run score len w st false false o).1.wasCanceled = false := by
  rcases hstart with ⟨rfl, bk⟩ | ⟨rfl, l⟩ | ⟨rfl, g⟩
  · have h := C06_rescore_run_contract score len S w o bk renv
    exact ⟨⟨h.1, h.2.2.1⟩, h.2.1, h.2.2.2.2⟩
  · have h := C06_update_run_contract_loose score len S w o renv l _ rfl
    exact ⟨⟨h.1, h.2.2.1⟩, h.2.1, h.2.2.2.2⟩
  · have h := C06_unchanged_run_contract score len S w o g.bk renv g.right
    exact ⟨⟨h.1, h.2.2.1⟩, h.2.1, h.2.2.2.2⟩

theorem Between.of_run (S : Nat → Option Item) (w : Worker) (st : PStatus) (o : Obs)
    (hstart : (st = .rescore ∧ BK w) ∨ (st = .update ∧ Loose score S w.pattern w) ∨ (st = .unchanged ∧ Good score S w))
    (env : ObsEnv S w o) (hc : o.canceled (Worker.scorePass score (w.begin false) st o).2.2 = true ∨ RunEnv S w o) :
    Between score S (Worker.run score len w st false false o).1 := by
  rcases hc with hc | renv
  · have hlt : w.lastSnapshot < PLACE := Nat.lt_of_le_of_lt env.countGe env.countLt
    obtain ⟨l, hw, hp⟩ := C06_cancelled_run_loose score len S w st o env
      (hstart.imp id (fun h => h.elim (fun h => h.2) (fun h => h.2.loose score hlt))) hc
    exact ⟨hp ▸ l, fun h => by rw [hw] at h; cases h⟩
  · obtain ⟨g, _, hl, _⟩ := run_completed score len S w st o renv hstart
    exact ⟨g.loose score (hl ▸ renv.countLt), fun _ => g⟩

theorem Between.step (S : Nat → Option Item) (w : Worker) (s : RunStep) (b : Between score S w) (ok : s.Ok score S w) :
    Between score S (s.next score len w) := by
  refine Between.of_run score len S (s.start w) s.st s.o ?_ ok.env ok.cancel
  cases hst : s.st with
  | rescore => exact Or.inl ⟨rfl, b.loose.bk.congr rfl rfl⟩
  | update => exact Or.inr (Or.inl ⟨rfl, (b.loose.narrow score (ok.update hst)).congr score rfl rfl rfl⟩)
  | unchanged =>
    obtain ⟨hp, hwc⟩ := ok.unchanged hst
    refine Or.inr (Or.inr ⟨rfl, ?_, (b.good hwc).bk.congr rfl rfl⟩)
    show w.hits.Perm (idealHits score S s.pNew (processed w))
    rw [hp]
    exact (b.good hwc).right

def runHistory (w : Worker) : List RunStep → Worker
  | [] => w
  | s :: rest => runHistory (s.next score len w) rest

def HistoryOk (S : Nat → Option Item) : Worker → List RunStep → Prop
  | _, [] => True
  | w, s :: rest => s.Ok score S w ∧ HistoryOk S (s.next score len w) rest

/-- C07 over histories with cancellation: through any sequence of non-clearing runs for a non-empty pattern — full
    rescoring, appended edits, new items under an unchanged pattern — each of which completes or is cancelled at an
    arbitrary point (clearing and empty-pattern runs: `C07_protocol`), the worker never loses an
    accounted item that matches its pattern, and after every completed run its match list is exactly the pattern's
    matches among the accounted items (with nothing in flight: the from-scratch result, `C07_quiescent`) -/
theorem C07_history (S : Nat → Option Item) : ∀ (steps : List RunStep) (w : Worker), Between score S w → HistoryOk score len S w steps →
    Between score S (runHistory score len w steps) := by
  intro steps
  induction steps with
  | nil => intro w b _; exact b
  | cons s rest ih =>
    intro w b h
    exact ih _ (b.step score len S w s h.1) h.2

/-- the hypotheses can be met: the empty worker is in a `Between` state for any stream and pattern -/
example (S : Nat → Option Item) (p : Nat) :
    Between score S { running := false, hits := [], pattern := p, wasCanceled := false, lastSnapshot := 0, inFlight := [], stream := 0 } := by
  suffices g : Good score S _ from ⟨g.loose score (by simp [PLACE]), fun _ => g⟩
  exact Good.of_empty score S _ rfl rfl rfl

end NucleoVerif.Nu
