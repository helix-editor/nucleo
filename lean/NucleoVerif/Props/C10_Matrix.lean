import NucleoVerif.Props.C04_Compressed
import NucleoVerif.Lemmas.OptSafe
/-! # C10 (companion file) — the matrix path does not depend on the matcher's history

The scratch slab is allocated once and never cleared; `fuzzy_match_optimal` rewrites only part of the score row and of
the back-pointer matrix per call.  In the code-level model (`Model/OptImpl.lean`) the prior content of both is an
argument; by `optimalImpl_eq_optimalDP` the result does not depend on it.  (The other paths keep no state in the slab.)

Also here: the side conditions of the matrix path's index arithmetic (`C10_matrix_indices_in_range`) and a bound on the
scores of the recurrence's cells that leaves room for the `u16` score additions (`C10_matrix_scores_fit_u16`). -/
namespace NucleoVerif.OptImpl
open NucleoVerif NucleoVerif.Gen NucleoVerif.Gen.Opt NucleoVerif.DP NucleoVerif.Spec

/-- **C10, the matrix path does not depend on the matcher's history**: whatever earlier calls left in the score row and
    in the back-pointer cells, the result is the same -/
theorem C10_matrix_history_independent (cfg : Cfg) (ext : Ext) (hrep : Rep) (h n : List Nat) (start end_ : Nat)
    (cur0 cur1 : List ScoreCell) (cells0 cells1 : List MatrixCell)
    (hN : 2 ≤ n.length) (hNW : n.length ≤ (windowCols cfg ext hrep h start end_).length)
    (hwhite : cfg.white < 256) (hdelim : cfg.delim < 256)
    (hc0 : cur0.length = (windowCols cfg ext hrep h start end_).length + 1 - n.length)
    (hc1 : cur1.length = (windowCols cfg ext hrep h start end_).length + 1 - n.length)
    (hm0 : ((windowCols cfg ext hrep h start end_).length + 1 - n.length) * n.length ≤ cells0.length)
    (hm1 : ((windowCols cfg ext hrep h start end_).length + 1 - n.length) * n.length ≤ cells1.length) :
    optimalImpl cfg (windowCols cfg ext hrep h start end_) n start cur0 cells0 =
      optimalImpl cfg (windowCols cfg ext hrep h start end_) n start cur1 cells1 := by
  rw [optimalImpl_eq_optimalDP cfg ext hrep h n start end_ cur0 cells0 hN hNW hwhite hdelim hc0 hm0,
    optimalImpl_eq_optimalDP cfg ext hrep h n start end_ cur1 cells1 hN hNW hwhite hdelim hc1 hm1]

/-- the hypotheses are met: two different prior contents, one result -/
example :
    let cfg : Cfg := { delims := [47], white := 10, delim := 9, initial := .whitespace, normalize := true, ignoreCase := true, preferPrefix := false }
    let cols := windowCols cfg (fun _ => default) .ascii [97, 120, 98, 120, 99, 98] 0 6
    optimalImpl cfg cols [97, 98, 99] 0 (List.replicate 4 ⟨7, 3, true⟩) (List.replicate 12 ⟨3⟩) =
      optimalImpl cfg cols [97, 98, 99] 0 ((List.range 4).map fun i => ⟨900 + i, i, false⟩) (List.replicate 12 ⟨0⟩) := by
  decide

/-- **C10, the matrix path computes no index out of range and no negative difference, and its traceback ends**: every
    side condition of `optimalSafe` — one per `u16`/`usize` subtraction and per slice or index expression of `setup`,
    `score_row`, `populate_matrix`, the best-cell search and `reconstruct_optimal_path` — holds, for every window, needle of
    two or more characters that fits it, configuration and prior scratch content -/
theorem C10_matrix_indices_in_range (cfg : Cfg) (ext : Ext) (hrep : Rep) (h n : List Nat) (start end_ : Nat)
    (cur0 : List ScoreCell) (cells0 : List MatrixCell)
    (hN : 2 ≤ n.length) (hNW : n.length ≤ (windowCols cfg ext hrep h start end_).length)
    (hwhite : cfg.white < 256) (hdelim : cfg.delim < 256)
    (hcur : cur0.length = (windowCols cfg ext hrep h start end_).length + 1 - n.length)
    (hcells : ((windowCols cfg ext hrep h start end_).length + 1 - n.length) * n.length ≤ cells0.length) :
    optimalSafe cfg (windowCols cfg ext hrep h start end_) n start cur0 cells0 = true := by
  by_cases hm : (rowOffs n (windowCols cfg ext hrep h start end_)).length = n.length
  · exact optimalSafe_ctx cfg ⟨_, n, _, _⟩
      (good_of_greedy _ hN (windowCols_bonus_lt cfg ext hrep h start end_ hwhite hdelim) (rowOffs_greedy _ n hm))
      start rfl rfl cur0 cells0 hcur hcells
  · unfold optimalSafe
    match n, hN with
    | n0 :: n1 :: ns, _ => simp only [hm, ne_eq, not_false_eq_true, if_true]

/-- the conditions are not vacuous: they fail for offsets the greedy scan cannot produce -/
example : scoreRowSafe 4 12 6 3 3 1 = false ∧ scoreRowSafe 4 12 6 1 3 1 = true := by decide

/-- every cell of row `r` of the recurrence carries an alignment of `r + 1` distinct indices and the scheme's value of it,
    which `C03_scheme_bound` bounds by the length (prefix preference off; any bonuses) -/
theorem rowN_score_le (cfg : Cfg) (ext : Ext) (hrep : Rep) (h n : List Nat) (start end_ : Nat)
    (hpp : cfg.preferPrefix = false) (r k : Nat) (c : Cell) (hr : r < n.length)
    (hc : (rowN (windowCols cfg ext hrep h start end_) n (prefixStart cfg start) r)[k]? = some (some c)) :
    c.score ≤ (16 + bonusCap cfg.white cfg.delim) * (r + 1) + bonusCap cfg.white cfg.delim := by
  have hpb : prefixStart cfg start = 0 := by unfold prefixStart; simp [hpp]
  rw [hpb] at hc
  generalize hcols : windowCols cfg ext hrep h start end_ = cols at hc
  have colsok : ColsOK cfg.white cfg.delim cfg.initial (clsOf cfg ext h) cols start := by
    rw [← hcols]; exact windowCols_ok cfg ext hrep h start end_
  have rowinv : RowInv cfg.white cfg.delim cfg.initial (clsOf cfg ext h) start (rowN cols n 0 r) := by
    unfold rowN
    exact allRows_inv cfg.white cfg.delim cfg.initial (clsOf cfg ext h) cols start colsok _ _
      (firstRow_inv cfg.white cfg.delim cfg.initial (clsOf cfg ext h) _ cols start colsok)
  have inv := rowinv k c hc
  have hklen : k < cols.length := by
    rw [← rowN_length cols n 0 r]
    exact (List.getElem?_eq_some_iff.mp hc).1
  have hjlt : start + k < h.length := by
    have := windowCols_length_le cfg ext hrep h start end_
    rw [hcols] at this
    omega
  have hsorted : c.path.Pairwise (· < ·) := inv.2.2.2.2.2.2.2.2.2.2
  have hnd : c.path.Nodup := hsorted.imp (fun hab => Nat.ne_of_lt hab)
  have hb := C03_scheme_bound cfg ext h c.path hnd
  rw [rowN_len cols n 0 r hr k c hc, ← cell_score_eq_alignScore cfg ext h c (start + k) hjlt inv] at hb
  exact hb

/-- **no `u16` overflow in the matrix**: with prefix preference off and the presets' boundary bonuses (at most 10), every
    cell of row `r` of the recurrence has a score of at most `26 (r + 1) + 10` (the cells of the score row carry the same
    scores: `CellRel`, `Inv.hrow`); for the needle lengths the slab admits (`MAX_NEEDLE_LEN` = 2048) that leaves room for
    every intermediate sum of `next_m_cell` (`+ max(consecutive_bonus, bonus)`, `+ SCORE_MATCH`) below 2^16 -/
theorem C10_matrix_scores_fit_u16 (cfg : Cfg) (ext : Ext) (hrep : Rep) (h n : List Nat) (start end_ : Nat)
    (hpp : cfg.preferPrefix = false) (hw : cfg.white ≤ 10) (hd : cfg.delim ≤ 10) (hlen : n.length ≤ 2048)
    (r k : Nat) (c : Cell) (hr : r < n.length)
    (hc : (rowN (windowCols cfg ext hrep h start end_) n (prefixStart cfg start) r)[k]? = some (some c)) :
    c.score ≤ 26 * (r + 1) + 10 ∧ c.score + 26 < 65536 := by
  have hb := rowN_score_le cfg ext hrep h n start end_ hpp r k c hr hc
  have hB : bonusCap cfg.white cfg.delim ≤ 10 := by unfold bonusCap; omega
  have : (16 + bonusCap cfg.white cfg.delim) * (r + 1) ≤ 26 * (r + 1) := Nat.mul_le_mul_right _ (by omega)
  have h1 : c.score ≤ 26 * (r + 1) + 10 := by omega
  exact ⟨h1, by omega⟩

end NucleoVerif.OptImpl
