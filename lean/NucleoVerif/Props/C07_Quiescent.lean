import NucleoVerif.Props.C06_RunContract
/-! # C07 (companion file) — the quiescent result is the from-scratch result

Whatever happened before (the bookkeeping survives every run, `BK_run` and `run_cleared`), a completed run that rebuilds the list makes it
right (`Good`); completed incremental runs keep it right; and with nothing in flight a right list is what a fresh
matcher computes for the current pattern over all injected items. -/
namespace NucleoVerif.Nu

variable (score : Nat → Item → Option Nat) (len : Item → Nat)

/-- the match list is right: exactly the current pattern's matches among the accounted items -/
structure Good (S : Nat → Option Item) (w : Worker) : Prop where
  right : w.hits.Perm (idealHits score S w.pattern (processed w))
  bk : BK w

theorem Good.congr {Sx : Nat → Option Item} {w w' : Worker} (g : Good score Sx w) (h1 : w'.hits = w.hits) (h2 : w'.inFlight = w.inFlight)
    (h3 : w'.lastSnapshot = w.lastSnapshot) (h4 : w'.pattern = w.pattern) : Good score Sx w' :=
  ⟨by rw [h1, h4, processed_congr h2 h3]; exact g.right, g.bk.congr h2 h3⟩

theorem Good.of_empty (Sx : Nat → Option Item) (w : Worker) (h1 : w.hits = []) (h2 : w.lastSnapshot = 0) (h3 : w.inFlight = []) :
    Good score Sx w := by
  refine ⟨?_, ⟨by rw [h3]; exact List.nodup_nil, by rw [h3]; exact nofun⟩⟩
  rw [h1, processed_of_zero h2]
  exact List.Perm.refl _

theorem C07_rescore_establishes (S : Nat → Option Item) (w : Worker) (o : Obs) (bk : BK w) (env : RunEnv S w o) :
    Good score S (Worker.run score len w .rescore false false o).1 := by
  have h := C06_rescore_run_contract score len S w o bk env
  exact ⟨h.1, h.2.2.1⟩

theorem C07_unchanged_preserves (S : Nat → Option Item) (w : Worker) (o : Obs) (g : Good score S w) (env : RunEnv S w o) :
    Good score S (Worker.run score len w .unchanged false false o).1 := by
  have h := C06_unchanged_run_contract score len S w o g.bk env g.right
  exact ⟨h.1, h.2.2.1⟩

/-- an appended edit: the worker is handed the new pattern `pNew`, which matches only what the old one matched -/
theorem C07_update_preserves (S : Nat → Option Item) (w : Worker) (o : Obs) (pNew : Nat) (g : Good score S w)
    (hsound : ∀ it, (score pNew it).isSome = true → (score w.pattern it).isSome = true)
    (env : RunEnv S { w with pattern := pNew } o) :
    Good score S (Worker.run score len { w with pattern := pNew } .update false false o).1 := by
  have h := C06_update_run_contract score len S { w with pattern := pNew } o (g.bk.congr rfl rfl) env w.pattern hsound
    g.right _ rfl
  exact ⟨h.1, h.2.2.1⟩

/-- a cancelled or otherwise arbitrary run in between can spoil the list but not the bookkeeping, so the next
    rebuilding run repairs it -/
theorem C07_any_run_then_rescore (S : Nat → Option Item) (w : Worker) (st : PStatus) (pe : Bool) (o1 o2 : Obs) (pNew : Nat) (bk : BK w)
    (hc : w.lastSnapshot ≤ o1.count) (hord : ∀ l, (o1.inFlightOrder l).Perm l)
    (env : RunEnv S { (Worker.run score len w st false pe o1).1 with pattern := pNew } o2) :
    Good score S (Worker.run score len { (Worker.run score len w st false pe o1).1 with pattern := pNew } .rescore false false o2).1 := by
  have b1 := BK_run score len w st pe o1 bk hc hord
  exact C07_rescore_establishes score len S _ o2 (b1.congr rfl rfl) env

/-- C07, quiescence: a right list with nothing in flight is the from-scratch result over every item below the snapshot
    end, and its reported item count is that number of items -/
theorem C07_quiescent (S : Nat → Option Item) (w : Worker) (g : Good score S w) (hfl : w.inFlight = []) :
    w.hits.Perm (idealHits score S w.pattern (List.range w.lastSnapshot)) ∧ w.itemCount = w.lastSnapshot := by
  refine ⟨C06_quiescent score S w g.right hfl, ?_⟩
  unfold Worker.itemCount
  rw [hfl]
  rfl

end NucleoVerif.Nu
