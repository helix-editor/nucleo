import NucleoVerif.Lemmas.Tight
/-! # C02 — the greedy matcher's indices are a valid witness

The greedy matcher's forward scan produces a tight window (`Lemmas/Tight.lean`) and its backward scan keeps it tight; so
does the ASCII prefilter's scan.  Each path of the greedy entry point is described once by "the result is
`calculate_score` on some tight window"; the witness theorem here and the score theorems of C03 are read off from that. -/
namespace NucleoVerif
open Gen Spec Sub DP

theorem Tight.single (a : Nat) : Tight [a] [a] := tight_single_cons.mpr rfl

theorem csLoop_tight (cfg : Cfg) (ext : Ext) (hrep : Rep) (g : Nat → Nat) :
    ∀ (cs : List Nat) (l : CsLoop) (pos : Nat), Tight (l.needleChar :: l.rest) (cs.map (cnorm cfg hrep)) →
      (∀ k c, cs[k]? = some c → g (pos + k) = cnorm cfg hrep c) →
      ∃ is : List Nat, (csLoop cfg ext hrep l pos cs).idxRev = is.reverse ++ l.idxRev ∧ is.Pairwise (· < ·) ∧
        (∀ x ∈ is, pos ≤ x ∧ x < pos + cs.length) ∧ is.map g = l.needleChar :: l.rest := by
  intro cs l pos ht hg
  obtain ⟨is, i1, i2, i3, i4, _⟩ := csLoop_tight_last cfg ext hrep g cs l pos _ rfl ht hg
  exact ⟨is, i1, i2, i3, i4⟩

theorem calculateScore_tight (cfg : Cfg) (ext : Ext) (hrep : Rep) (h : List Nat) (n0 : Nat) (nrest : List Nat) (start e : Nat)
    (tw : TightWindow cfg hrep h n0 nrest start e) :
    (calculateScore cfg ext hrep h (n0 :: nrest) start e).2.Pairwise (· < ·) ∧
    (∀ x ∈ (calculateScore cfg ext hrep h (n0 :: nrest) start e).2, start ≤ x ∧ x < e) ∧
    (calculateScore cfg ext hrep h (n0 :: nrest) start e).2.map (chAt cfg hrep h) = n0 :: nrest := by
  obtain ⟨w1, w2, w3, _⟩ := calculateScore_tight_last cfg ext hrep h n0 nrest start e tw
  exact ⟨w1, w2, w3⟩

theorem window_drop (h : List Nat) (s e k : Nat) :
    ((h.drop s).take (e - s)).drop k = (h.drop (s + k)).take (e - (s + k)) := by
  rw [List.drop_take, List.drop_drop, Nat.sub_add_eq]

theorem greedyFwd_consumed (cfg : Cfg) (hrep : Rep) : ∀ (cs : List Nat) (nc : Nat) (ns : List Nat) (k k' : Nat),
    greedyFwd cfg hrep (nc :: ns) cs k = some k' →
      ∃ m, k' = k + m ∧ 0 < m ∧ m ≤ cs.length ∧ Tight (nc :: ns) ((cs.take m).map (norm cfg hrep)) := by
  intro cs
  induction cs with
  | nil => intro nc ns k k' h; simp [greedyFwd] at h
  | cons c cs ih =>
    intro nc ns k k' h
    simp only [greedyFwd] at h
    by_cases hm : norm cfg hrep c = nc
    · rw [if_pos hm] at h
      cases ns with
      | nil =>
        cases Option.some.inj h
        exact ⟨1, rfl, Nat.one_pos, Nat.succ_le_succ (Nat.zero_le _), by
          rw [List.take_succ_cons, List.take_zero, List.map_singleton, hm]; exact Tight.single nc⟩
      | cons n2 r =>
        obtain ⟨m, rfl, _, hle, ht⟩ := ih n2 r (k + 1) k' h
        exact ⟨m + 1, Nat.add_right_comm k 1 m, Nat.succ_pos m, Nat.succ_le_succ hle, by
          rw [List.take_succ_cons, List.map_cons, hm]; exact tight_cons_match.mpr ht⟩
    · rw [if_neg hm] at h
      obtain ⟨m, rfl, _, hle, ht⟩ := ih nc ns (k + 1) k' h
      exact ⟨m + 1, Nat.add_right_comm k 1 m, Nat.succ_pos m, Nat.succ_le_succ hle, by
        rw [List.take_succ_cons, List.map_cons]; exact (tight_cons_skip (Ne.symm hm)).mpr ht⟩

/-- the forward scan of the greedy matcher (`needle[1..]` over the haystack behind the first character) stops exactly
    where the rest of the needle is complete for the first time -/
theorem greedyFwd_tight (cfg : Cfg) (hrep : Rep) : ∀ (cs : List Nat) (nc : Nat) (ns : List Nat) (k k' : Nat),
    greedyFwd cfg hrep (nc :: ns) cs k = some k' →
      k < k' ∧ k' - k ≤ cs.length ∧ Tight (nc :: ns) ((cs.take (k' - k)).map (norm cfg hrep)) := by
  intro cs nc ns k k' h
  obtain ⟨m, rfl, hm, hle, ht⟩ := greedyFwd_consumed cfg hrep cs nc ns k k' h
  rw [Nat.add_sub_cancel_left]
  exact ⟨Nat.lt_add_of_pos_right hm, hle, ht⟩

theorem greedyBwd_last (cfg : Cfg) (hrep : Rep) : ∀ (P : List (Nat × Nat)) (t : List Nat) (i : Nat),
    greedyBwd cfg hrep t P = some i →
      ∃ P1 c P2, P = P1 ++ (i, c) :: P2 ∧ t.getLast? = some (norm cfg hrep c) ∧
        subseqB t.dropLast (P1.map (fun p => norm cfg hrep p.2)) = true := by
  intro P
  induction P with
  | nil => intro t i h; cases t <;> simp [greedyBwd] at h
  | cons pc P ih =>
    intro t i h
    obtain ⟨j, c⟩ := pc
    cases t with
    | nil => simp [greedyBwd] at h
    | cons nc ns =>
      simp only [greedyBwd] at h
      by_cases hm : norm cfg hrep c = nc
      · rw [if_pos hm] at h
        cases ns with
        | nil =>
          cases Option.some.inj h
          exact ⟨[], c, P, rfl, by rw [hm]; rfl, rfl⟩
        | cons n2 r =>
          obtain ⟨P1, c', P2, e1, e2, e3⟩ := ih (n2 :: r) i h
          refine ⟨(j, c) :: P1, c', P2, by rw [e1]; rfl, by rw [List.getLast?_cons_cons]; exact e2, ?_⟩
          rw [List.dropLast_cons_cons, List.map_cons, subseqB, if_pos hm.symm]
          exact e3
      · rw [if_neg hm] at h
        obtain ⟨P1, c', P2, e1, e2, e3⟩ := ih (nc :: ns) i h
        exact ⟨(j, c) :: P1, c', P2, by rw [e1]; rfl, e2,
          subseqB_of_sublist_hay _ _ _ e3 (List.sublist_cons_self _ _)⟩

/-- the backward scan: where it stops, the first needle character stands, and the rest of the needle is a subsequence
    of what the scan has passed -/
theorem greedyBwd_spec (cfg : Cfg) (hrep : Rep) : ∀ (P : List (Nat × Nat)) (nc : Nat) (ns : List Nat) (i : Nat),
    greedyBwd cfg hrep (nc :: ns) P = some i →
      ∃ P1 c P2, P = P1 ++ (i, c) :: P2 ∧ norm cfg hrep c = (nc :: ns).getLast (by simp) ∧
        subseqB (nc :: ns).dropLast (P1.map (fun p => norm cfg hrep p.2)) = true := by
  intro P nc ns i h
  obtain ⟨P1, c, P2, e1, e2, e3⟩ := greedyBwd_last cfg hrep P (nc :: ns) i h
  rw [List.getLast?_eq_some_getLast (List.cons_ne_nil nc ns)] at e2
  exact ⟨P1, c, P2, e1, (Option.some.inj e2).symm, e3⟩

theorem enumFrom_map_snd : ∀ (L : List Nat) (k : Nat), (enumFrom k L).map (·.2) = L := by
  intro L
  induction L with
  | nil => intro _; rfl
  | cons x xs ih => intro k; rw [enumFrom, List.map_cons, ih]

theorem enumFrom_split : ∀ (L : List Nat) (k : Nat) (A : List (Nat × Nat)) (i c : Nat) (B : List (Nat × Nat)),
    enumFrom k L = A ++ (i, c) :: B → i = k + A.length ∧ L[A.length]? = some c ∧ B.map (·.2) = L.drop (A.length + 1) := by
  intro L
  induction L with
  | nil => intro k A i c B h; cases A <;> cases h
  | cons x xs ih =>
    intro k A i c B h
    cases A with
    | nil =>
      cases h
      exact ⟨rfl, rfl, enumFrom_map_snd xs (k + 1)⟩
    | cons a A' =>
      obtain ⟨i1, i2, i3⟩ := ih (k + 1) A' i c B (List.cons.inj h).2
      exact ⟨by rw [i1, List.length_cons, Nat.add_right_comm, Nat.add_assoc], i2, i3⟩

theorem greedyBwd_window (cfg : Cfg) (hrep : Rep) (n0 : Nat) (nrest W : List Nat) (i : Nat)
    (hb : greedyBwd cfg hrep (n0 :: nrest).reverse (enumFrom 0 W).reverse = some i) :
    ∃ c, W[i]? = some c ∧ norm cfg hrep c = n0 ∧ subseqB nrest ((W.drop (i + 1)).map (norm cfg hrep)) = true := by
  obtain ⟨P1, c, P2, e1, e2, e3⟩ := greedyBwd_last cfg hrep _ _ i hb
  rw [List.reverse_cons, List.getLast?_concat] at e2
  rw [List.reverse_cons, List.dropLast_concat] at e3
  have e1' : enumFrom 0 W = P2.reverse ++ (i, c) :: P1.reverse := by
    rw [← List.reverse_reverse (enumFrom 0 W), e1, List.reverse_append, List.reverse_cons, List.append_assoc]; rfl
  obtain ⟨s1, s2, s3⟩ := enumFrom_split W 0 _ i c _ e1'
  rw [Nat.zero_add] at s1
  subst s1
  refine ⟨c, s2, (Option.some.inj e2).symm, ?_⟩
  -- what the scan has passed is the window behind the position, reversed
  rw [← s3, List.map_map]
  rw [subseqB_iff_sublist] at e3 ⊢
  have := List.reverse_sublist.mpr e3
  rwa [List.reverse_reverse, ← List.map_reverse] at this

theorem tightWindow_bwd (cfg : Cfg) (hrep : Rep) (h : List Nat) (n0 : Nat) (nrest : List Nat) (start e : Nat)
    (tw : TightWindow cfg hrep h n0 nrest start e) (i : Nat)
    (hb : greedyBwd cfg hrep (n0 :: nrest).reverse (enumFrom 0 ((h.drop start).take (e - start))).reverse = some i) :
    TightWindow cfg hrep h n0 nrest (start + i) e := by
  obtain ⟨t1, t2, _, t4⟩ := tw
  obtain ⟨c, hc, h0, hsub⟩ := greedyBwd_window cfg hrep n0 nrest _ i hb
  have hi : i < e - start := by
    obtain ⟨hi, _⟩ := List.getElem?_eq_some_iff.mp hc
    rw [List.length_take] at hi
    exact Nat.lt_of_lt_of_le hi (Nat.min_le_left _ _)
  refine ⟨by omega, t2, ?_, ?_⟩
  · rw [chAt_drop cfg hrep h start _ i c hc, cnorm_eq_norm]; exact h0
  · cases nrest with
    | nil =>
      cases (t4 : e = start + 1)
      show start + 1 = start + i + 1
      omega
    | cons n1 r =>
      -- the rest of the window, shortened by `i` from the left, still holds the rest of the needle
      have t4' : Tight (n1 :: r) (((h.drop (start + 1)).take (e - (start + 1))).map (cnorm cfg hrep)) := t4
      have hw : ((h.drop (start + 1)).take (e - (start + 1))).drop i = (h.drop (start + i + 1)).take (e - (start + i + 1)) := by
        rw [window_drop, Nat.add_right_comm]
      rw [window_drop] at hsub
      have := t4'.drop i (by rw [← List.map_drop, hw, map_cnorm_eq_map_norm]; exact hsub)
      rwa [← List.map_drop, hw] at this

/-- The backward scan keeps the window tight: wherever it moves the start to, the first needle character stands
    there and the rest of the needle still needs the window's last character. -/
theorem tight_after_bwd (cfg : Cfg) (hrep : Rep) (h : List Nat) (n0 n1 : Nat) (r : List Nat) (start e : Nat)
    (hr : hrep = .ascii → ∀ c ∈ h, c < 128) (tw : TightWindow cfg hrep h n0 (n1 :: r) start e) :
    TightWindow cfg hrep h n0 (n1 :: r)
      (match greedyBwd cfg hrep (n0 :: n1 :: r).reverse (enumFrom 0 ((h.drop start).take (e - start))).reverse with
       | some i => start + i
       | none => start) e := by
  cases hb : greedyBwd cfg hrep (n0 :: n1 :: r).reverse (enumFrom 0 ((h.drop start).take (e - start))).reverse with
  | none => exact tw
  | some i => exact tightWindow_bwd cfg hrep h n0 (n1 :: r) start e tw i hb

/-- the end of `fuzzy_match_greedy_`: backward scan, then `calculate_score` -/
theorem greedyTail_tight (cfg : Cfg) (ext : Ext) (hrep : Rep) (h : List Nat) (n0 : Nat) (nrest : List Nat) (start e : Nat)
    (tw : TightWindow cfg hrep h n0 nrest start e) (r : Nat × List Nat)
    (hres : some (calculateScore cfg ext hrep h (n0 :: nrest)
      (match greedyBwd cfg hrep (n0 :: nrest).reverse (enumFrom 0 ((h.drop start).take (e - start))).reverse with
       | some i => start + i
       | none => start) e) = some r) :
    ∃ s e, TightWindow cfg hrep h n0 nrest s e ∧ r = calculateScore cfg ext hrep h (n0 :: nrest) s e := by
  cases hb : greedyBwd cfg hrep (n0 :: nrest).reverse (enumFrom 0 ((h.drop start).take (e - start))).reverse with
  | none =>
    rw [hb] at hres
    exact ⟨start, e, tw, (Option.some.inj hres).symm⟩
  | some i =>
    rw [hb] at hres
    exact ⟨start + i, e, tightWindow_bwd cfg hrep h n0 nrest start e tw i hb, (Option.some.inj hres).symm⟩

/-- `fuzzy_match_greedy` behind the prefilter, both strings ASCII: the prefilter has already run the forward scan, up to
    `end` -/
theorem fuzzyGreedyInner_tight_ascii (cfg : Cfg) (ext : Ext) (h : List Nat) (n0 : Nat) (ns : List Nat) (start end_ : Nat)
    (tw : TightWindow cfg .ascii h n0 ns start end_) (r : Nat × List Nat)
    (hres : fuzzyGreedyInner cfg ext .ascii .ascii h (n0 :: ns) start end_ = some r) :
    ∃ s e, TightWindow cfg .ascii h n0 ns s e ∧ r = calculateScore cfg ext .ascii h (n0 :: ns) s e := by
  unfold fuzzyGreedyInner at hres
  simp only [and_self, if_true] at hres
  exact greedyTail_tight cfg ext .ascii h n0 ns start end_ tw r hres

/-- in the other representation pairs `fuzzy_match_greedy` runs the forward scan itself, from the first needle character
    at `start` -/
theorem fuzzyGreedyInner_tight_scan (cfg : Cfg) (ext : Ext) (hrep nrep : Rep) (h : List Nat) (n0 : Nat) (ns : List Nat) (start : Nat)
    (hnb : ¬ (hrep = .ascii ∧ nrep = .ascii))
    (hst : start < h.length) (h0 : chAt cfg hrep h start = n0) (r : Nat × List Nat)
    (hres : fuzzyGreedyInner cfg ext hrep nrep h (n0 :: ns) start (start + 1) = some r) :
    ∃ s e, TightWindow cfg hrep h n0 ns s e ∧ r = calculateScore cfg ext hrep h (n0 :: ns) s e := by
  unfold fuzzyGreedyInner at hres
  simp only [hnb, if_false, List.drop_succ_cons, List.drop_zero] at hres
  cases ns with
  | nil => exact greedyTail_tight cfg ext hrep h n0 [] start _ (TightWindow.of_rest cfg hrep h n0 [] start 0 hst h0 rfl) r hres
  | cons n1 r' =>
    simp only at hres
    cases hf : greedyFwd cfg hrep (n1 :: r') (h.drop (start + 1)) 0 with
    | none => rw [hf] at hres; cases hres
    | some k =>
      obtain ⟨m, rfl, _, hle, ht⟩ := greedyFwd_consumed cfg hrep _ n1 r' 0 k hf
      rw [hf, Nat.zero_add] at hres
      rw [List.length_drop] at hle
      have tw := TightWindow.of_rest cfg hrep h n0 (n1 :: r') start m (by omega) h0
        (by show Tight (n1 :: r') _; rw [map_cnorm_eq_map_norm]; exact ht)
      exact greedyTail_tight cfg ext hrep h n0 (n1 :: r') start _ tw r hres

theorem tight_of_findIdx (f : Nat → Nat) (p : Nat → Bool) (a : Nat) (as : List Nat) (hp : ∀ x, p x = true ↔ f x = a) :
    ∀ (L : List Nat) (i : Nat), findIdx p L = some i →
      (Tight (a :: as) (L.map f) ↔
        match as with
        | [] => L.length = i + 1
        | t => Tight t ((L.drop (i + 1)).map f)) := by
  intro L
  induction L with
  | nil => intro i h; simp [findIdx] at h
  | cons x xs ih =>
    intro i h
    simp only [findIdx] at h
    rw [List.map_cons]
    by_cases hx : p x = true
    · rw [if_pos hx] at h
      cases Option.some.inj h
      rw [(hp x).mp hx]
      cases as with
      | nil => rw [tight_single_cons, List.map_eq_nil_iff]; simp
      | cons b bs => exact tight_cons_match
    · rw [if_neg hx] at h
      cases hf : findIdx p xs with
      | none => rw [hf] at h; cases h
      | some j =>
        rw [hf] at h
        cases Option.some.inj h
        rw [tight_cons_skip (fun e => hx ((hp x).mpr e.symm)), ih j hf]
        cases as with
        | nil => simp
        | cons b bs => rfl

theorem asciiGreedyScan_consumed (cfg : Cfg) : ∀ (cs : List Nat) (c : Nat) (hay : List Nat) (ge ge' : Nat) (rest : List Nat),
    (∀ x ∈ c :: cs, normAscii cfg x = x) → asciiGreedyScan cfg.ignoreCase (c :: cs) hay ge = some (ge', rest) →
      ∃ m, ge' = ge + m ∧ 0 < m ∧ m ≤ hay.length ∧ Tight (c :: cs) ((hay.take m).map (normAscii cfg)) := by
  intro cs
  induction cs with
  | nil =>
    intro c hay ge ge' rest hn hsc
    simp only [asciiGreedyScan] at hsc
    cases hf : findIdx (asciiEq cfg.ignoreCase c) hay with
    | none => rw [hf] at hsc; cases hsc
    | some i =>
      rw [hf] at hsc
      cases Option.some.inj hsc
      have hi := (findIdx_some _ hay i hf).1
      refine ⟨i + 1, rfl, Nat.succ_pos i, hi, ?_⟩
      refine (tight_of_findIdx (normAscii cfg) _ c [] (fun x => asciiEq_iff cfg c x (hn c List.mem_cons_self)) _ i
        (findIdx_take _ hay i (i + 1) hf (Nat.lt_succ_self i))).mpr ?_
      rw [List.length_take]; exact Nat.min_eq_left hi
  | cons c2 cs ih =>
    intro c hay ge ge' rest hn hsc
    rw [asciiGreedyScan] at hsc
    cases hf : findIdx (asciiEq cfg.ignoreCase c) hay with
    | none => rw [hf] at hsc; cases hsc
    | some i =>
      rw [hf] at hsc
      have hi := (findIdx_some _ hay i hf).1
      obtain ⟨m, rfl, _, hle, ht⟩ :=
        ih c2 (hay.drop (i + 1)) (ge + i + 1) ge' rest (fun x hx => hn x (List.mem_cons_of_mem c hx)) hsc
      rw [List.length_drop] at hle
      refine ⟨i + 1 + m, by omega, by omega, by omega, ?_⟩
      refine (tight_of_findIdx (normAscii cfg) _ c (c2 :: cs) (fun x => asciiEq_iff cfg c x (hn c List.mem_cons_self)) _ i
        (findIdx_take _ hay i (i + 1 + m) hf (by omega))).mpr ?_
      show Tight (c2 :: cs) (((hay.take (i + 1 + m)).drop (i + 1)).map (normAscii cfg))
      rw [List.drop_take, Nat.add_sub_cancel_left]
      exact ht

/-- the ASCII prefilter's forward scan stops exactly where the rest of the needle is complete for the first time -/
theorem asciiGreedyScan_tight (cfg : Cfg) : ∀ (ns : List Nat) (hay : List Nat) (ge ge' : Nat) (rest : List Nat),
    (∀ c ∈ ns, normAscii cfg c = c) → ns ≠ [] → asciiGreedyScan cfg.ignoreCase ns hay ge = some (ge', rest) →
      ge < ge' ∧ ge' - ge ≤ hay.length ∧ Tight ns ((hay.take (ge' - ge)).map (normAscii cfg)) := by
  intro ns hay ge ge' rest hn hne hsc
  cases ns with
  | nil => exact absurd rfl hne
  | cons c cs =>
    obtain ⟨m, rfl, hm, hle, ht⟩ := asciiGreedyScan_consumed cfg cs c hay ge ge' rest hn hsc
    rw [Nat.add_sub_cancel_left]
    exact ⟨Nat.lt_add_of_pos_right hm, hle, ht⟩

theorem prefilterAscii_tight (cfg : Cfg) (h : List Nat) (n0 : Nat) (ns : List Nat) (og : Bool) (start ge e : Nat)
    (hn : ∀ c ∈ n0 :: ns, normAscii cfg c = c)
    (hp : prefilterAscii cfg h (n0 :: ns) og = some (start, ge, e)) : TightWindow cfg .ascii h n0 ns start ge := by
  obtain ⟨hf, rest, hg, _⟩ := prefilterAscii_eq_some hp
  obtain ⟨hst, h0⟩ := findIdx_take_some _ h start _ hf
  have hch : chAt cfg .ascii h start = n0 :=
    chAt_of_norm cfg .ascii h start n0 hst ((asciiEq_iff cfg n0 _ (hn n0 List.mem_cons_self)).mp h0)
  cases ns with
  | nil =>
    simp only [asciiGreedyScan, Option.some.injEq, Prod.mk.injEq] at hg
    cases hg.1
    exact TightWindow.of_rest cfg .ascii h n0 [] start 0 hst hch rfl
  | cons n1 r =>
    obtain ⟨m, rfl, _, hle, ht⟩ := asciiGreedyScan_consumed cfg r n1 _ (start + 1) ge rest
      (fun x hx => hn x (List.mem_cons_of_mem n0 hx)) hg
    rw [List.length_drop] at hle
    refine TightWindow.of_rest cfg .ascii h n0 (n1 :: r) start m (by omega) hch ?_
    show Tight (n1 :: r) _
    rw [map_cnorm_eq_map_norm]
    exact ht

theorem prefilterNonAscii_first (cfg : Cfg) (h : List Nat) (n0 : Nat) (ns : List Nat) (og : Bool) (start e : Nat)
    (hp : prefilterNonAscii cfg h (n0 :: ns) og = some (start, e)) :
    ∃ hst : start < h.length, normChar cfg h[start] = n0 := by
  obtain ⟨hst, h0⟩ := findIdx_take_some _ h start _ (prefilterNonAscii_eq_some hp).1
  exact ⟨hst, of_decide_eq_true h0⟩

theorem fuzzyGreedy_tight (cfg : Cfg) (ext : Ext) (hrep nrep : Rep) (h : List Nat) (n0 : Nat) (ns : List Nat)
    (hlen : (n0 :: ns).length < h.length)
    (hside : (hrep = .unicode) ∨ (hrep = .ascii ∧ nrep = .ascii ∧ (∀ c ∈ h, c < 128) ∧ ∀ c ∈ n0 :: ns, normAscii cfg c = c))
    (r : Nat × List Nat) (hres : fuzzyGreedy cfg ext hrep nrep h (n0 :: ns) = some r) :
    ∃ s e, TightWindow cfg hrep h n0 ns s e ∧ r = calculateScore cfg ext hrep h (n0 :: ns) s e := by
  unfold fuzzyGreedy at hres
  rw [guards_of_shorter h _ (List.cons_ne_nil _ _) hlen] at hres
  rcases hside with rfl | ⟨rfl, rfl, _, hn⟩
  · simp only at hres
    cases hp : prefilterNonAscii cfg h (n0 :: ns) true with
    | none => rw [hp] at hres; cases hres
    | some se =>
      obtain ⟨start, e⟩ := se
      rw [hp] at hres
      obtain ⟨hst, h0⟩ := prefilterNonAscii_first cfg h n0 ns true start e hp
      exact fuzzyGreedyInner_tight_scan cfg ext .unicode nrep h n0 ns start (fun e => nomatch e.1) hst
        (chAt_of_norm cfg .unicode h start n0 hst h0) r hres
  · simp only at hres
    cases hp : prefilterAscii cfg h (n0 :: ns) true with
    | none => rw [hp] at hres; cases hres
    | some sge =>
      obtain ⟨start, ge, e⟩ := sge
      rw [hp] at hres
      have tw := prefilterAscii_tight cfg h n0 ns true start ge e hn hp
      simp only at hres
      split at hres
      · exact ⟨start, ge, tw, (Option.some.inj hres).symm⟩
      · exact fuzzyGreedyInner_tight_ascii cfg ext h n0 ns start ge tw r hres

/-- `fuzzy_indices_greedy` reports a valid witness on code-point haystacks (any needle representation) and on ASCII
    haystacks with an already-normalized ASCII needle, for every needle shorter than the haystack (equal lengths take
    the exact-match path of `C02_exactImpl_contiguous`) -/
theorem C02_greedy_entry (cfg : Cfg) (ext : Ext) (hrep nrep : Rep) (h : List Nat) (n0 : Nat) (ns : List Nat)
    (hlen : (n0 :: ns).length < h.length)
    (hside : (hrep = .unicode) ∨ (hrep = .ascii ∧ nrep = .ascii ∧ (∀ c ∈ h, c < 128) ∧ ∀ c ∈ n0 :: ns, normAscii cfg c = c))
    (sc : Nat) (is : List Nat) (hres : fuzzyGreedy cfg ext hrep nrep h (n0 :: ns) = some (sc, is)) :
    validWitnessB cfg hrep h (n0 :: ns) is = true := by
  obtain ⟨s, e, tw, hcs⟩ := fuzzyGreedy_tight cfg ext hrep nrep h n0 ns hlen hside _ hres
  have := witness_of_tight cfg ext hrep h n0 ns s e tw
  rwa [← hcs] at this

end NucleoVerif
