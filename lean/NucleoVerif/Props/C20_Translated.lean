import NucleoVerif.Model.Nucleo
import NucleoVerif.Gen.Rules
/-! # C20 (companion file) — the state rules and the formula of `active_injectors`, translated from the source

`Gen/Rules.lean` is regenerated on every run from `src/lib.rs`: `State::matcher_item_refs`, `State::canceled`,
`State::cleared` and the formula of `Nucleo::active_injectors`.  They are the functions `NState.refs`, `NState.canceled`
and `Nucleo.activeInjectors` that C20 (and the tick protocol of C12/C19) are about. -/
namespace NucleoVerif.Nu

def NState.id : NState → Nat
  | .init => 0 | .cleared => 1 | .fresh => 2

theorem C20_translated_state (s : NState) :
    s.refs = Gen.Rules.matcher_item_refs s.id ∧ s.canceled = Gen.Rules.state_canceled s.id ∧
    s.canceled = Gen.Rules.state_cleared s.id := by
  cases s <;> decide

theorem C20_translated_active_injectors (n : Nucleo) :
    n.activeInjectors = Gen.Rules.active_injectors (n.strongCount n.cur) n.state.id (decide (n.snapshot.stream = n.cur)) := by
  unfold Nucleo.activeInjectors Gen.Rules.active_injectors
  rw [(C20_translated_state n.state).1]
  simp only [decide_eq_true_eq]

end NucleoVerif.Nu
