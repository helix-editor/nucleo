import NucleoVerif.Props.C19_TickTranslated
/-! # C07 (companion file) — the theorems of C07 are about the `Nucleo::tick` the code has

`C19_translated_tick_plan`, restated so that a change of the plan of `tick` / `tick_inner` in `src/lib.rs` is a broken
obligation of C07 as well. -/
namespace NucleoVerif.Nu

theorem C07_translated_tick (n : Nucleo) (o : TickOracle) (canceled : Bool) (status : PStatus) (count : Nat) :
    n.tickCancels = Gen.TickPlan.tick_cancels n.status.rank n.state.canceled ∧
    (tickInnerLocked n canceled status count).2 = ⟨n.worker.running, Gen.TickPlan.spawns canceled count n.worker.itemCount⟩ ∧
    (tickInnerTimeout n).2 = ⟨Gen.TickPlan.timeout_status.1, Gen.TickPlan.timeout_status.2⟩ ∧
    (n.snapAfter = if Gen.TickPlan.copies_snapshot n.worker.running n.worker.wasCanceled n.state.canceled then n.snapshot.update n.worker else n.snapshot) :=
  C19_translated_tick_plan n canceled status count

end NucleoVerif.Nu
