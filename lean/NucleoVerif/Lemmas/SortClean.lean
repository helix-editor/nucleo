import NucleoVerif.Lemmas.SortBlocks
open Std.Do
namespace NucleoVerif.PS
set_option mvcgen.warning false
variable {α : Type} {a0 : Array α}

/-- The step of a clean-up loop, in offsets: the last pending offset `offs[e]` and the last position `block` of the
    block trade their elements, and the block loses that position.  The element arriving at `offs[e]` is in place,
    because `offs[e]` was the largest pending offset. -/
theorem Pend.dropLast {c c' : Nat → Prop} {block : Nat} {offs : Array Nat} {s e : Nat} (h : Pend c (block + 1) offs s (e + 1))
    (hc : ∀ k, k < block → (c' k ↔ c (if k = offs[e]! then block else k))) : Pend c' block offs s e := by
  have hlast : offs[e]! ≤ block := Nat.le_of_lt_succ (h.bound e (Nat.lt_succ_self e))
  have hbelow : ∀ i, i < e → offs[i]! < offs[e]! := fun i hi => h.mono i e hi (Nat.lt_succ_self e)
  refine ⟨Nat.le_of_succ_le h.he, fun i j hij hj => h.mono i j hij (Nat.lt_succ_of_lt hj),
    fun i hi => Nat.lt_of_lt_of_le (hbelow i hi) hlast, fun k hk => ?_⟩
  rw [hc k hk]
  by_cases ek : k = offs[e]!
  · rw [if_pos ek]
    constructor
    · intro hcb
      obtain ⟨i, _, hi, hib⟩ := (h.cls block (Nat.lt_succ_self _)).1 hcb
      by_cases ie : i = e
      · subst ie; omega
      · have := hbelow i (by omega); omega
    · rintro ⟨i, _, hi, hik⟩
      have := hbelow i hi; omega
  · rw [if_neg ek, h.cls k (Nat.lt_succ_of_lt hk)]
    constructor
    · rintro ⟨i, h1, h2, h3⟩
      exact ⟨i, h1, Nat.lt_of_le_of_ne (Nat.le_of_lt_succ h2) fun ie => ek (by rw [← h3, ie]), h3⟩
    · rintro ⟨i, h1, h2, h3⟩
      exact ⟨i, h1, Nat.lt_succ_of_lt h2, h3⟩

/-- both clean-up loops are this loop (`pibCleanL_eq`, `pibCleanR_eq`, by `rfl`): the pending offsets are consumed from the
    end, each names the two positions to swap (`pa`, `pb`), and the boundary `x` of the block moves on -/
def pibClean (pa pb : Nat → Nat → Nat) (next : Nat → Nat) (x0 : Nat) (offs : Array Nat) (start : Nat) : M a0 Nat := do
  let mut x := x0
  let mut e := offs.size
  for _ in [0:offs.size] do
    if start < e then
      e := e - 1
      swp (pa x offs[e]!) (pb x offs[e]!)
      x := next x
    else break
  return x

theorem pibCleanL_eq (l r : Nat) (offs : Array Nat) (startL : Nat) :
    pibCleanL (a0 := a0) l r offs startL = pibClean (fun _ o => l + o) (fun x _ => x - 1) (· - 1) r offs startL := rfl

theorem pibCleanR_eq (l r : Nat) (offs : Array Nat) (startR : Nat) :
    pibCleanR (a0 := a0) l r offs startR = pibClean (fun x _ => x) (fun _ o => r - o - 1) (· + 1) l offs startR := rfl

variable [Inhabited α] (lt : α → α → Bool)

/-- an invariant `Inv x e` that keeps `start ≤ e ≤ offs.size` and survives a step holds at the end with `e = start`: the
    loop has fuel for all of `offs` and leaves only by its `break` -/
theorem pibClean_spec (pa pb : Nat → Nat → Nat) (next : Nat → Nat) (x0 : Nat) (offs : Array Nat) (start : Nat)
    (Inv : Nat → Nat → Array α → Prop) (hb : ∀ x e b, Inv x e b → start ≤ e ∧ e ≤ offs.size)
    (hstep : ∀ x e b, Inv x e b → start < e →
      Inv (next x) (e - 1) (b.swapIfInBounds (pa x offs[e - 1]!) (pb x offs[e - 1]!)))
    (b : Array α) :
   ⦃fun s => ⌜s.val = b ∧ Inv x0 offs.size b⌝⦄
   (pibClean (a0 := a0) pa pb next x0 offs start)
   ⦃⇓ x s => ⌜Inv x start s.val⌝⦄ := by
  mvcgen -trivial -leave [pibClean, swp_spec]
  case inv1 =>
    exact ⇓ ⟨xs, x, e⟩ s =>
      ⌜Inv x e s.val ∧ ((xs.suffix.length = 0 ∧ e ≤ start) ∨ e + xs.prefix.length = offs.size)⌝
  case vc1 => -- an offset is pending: one step
    rename_i _ s0 hpre pref cur suff hsplit bb x1 e1 hlt e2 s hinv x2
    have hlt' : start < bb.2 := hlt
    have hcnt : bb.2 + pref.length = offs.size := running_of_cons hinv.2
    refine SPred.pure_intro ⟨hstep _ _ _ hinv.1 hlt, Or.inr ?_⟩
    simp only [List.length_append, List.length_singleton]
    show bb.2 - 1 + (pref.length + 1) = offs.size
    omega
  case vc2 => -- none is: `break`
    rename_i _ s0 hpre pref cur suff hsplit bb x1 e1 hlt s hinv
    exact SPred.pure_intro ⟨hinv.1, Or.inl ⟨rfl, Nat.le_of_not_lt hlt⟩⟩
  case vc3 => -- on entry
    rename_i _ s hpre
    exact SPred.pure_intro ⟨hpre.1 ▸ hpre.2, Or.inr rfl⟩
  case vc4 => -- after the loop: left by `break`, or all of `offs` is consumed
    rename_i _ s0 hpre bb x1 s hinv
    obtain ⟨c, hcnt⟩ := hinv
    simp only [range_length] at hcnt
    have := hb _ _ _ c
    have e : bb.2 = start := by omega
    exact SPred.pure_intro (e ▸ c)

/-- invariant of the final clean-up of an unfinished left block: `v[l..r')` is what is left of the block, with the
    pending offsets `offs[startL..endL)`; `v[r'..r)` has received the elements moved out -/
structure CleanL (p : α) (b0 : Array α) (l r : Nat) (offs : Array Nat) (startL endL r' : Nat) (b : Array α) : Prop where
  frame : Frame l r b0 b
  hsz : r ≤ b.size
  hs : startL ≤ endL
  hl : l ≤ r'
  hr : r' ≤ r
  pend : Pend (fun k => lt (at' b (l + k)) p = false) (r' - l) offs startL endL
  geR : ∀ i, r' ≤ i → i < r → lt (at' b i) p = false

theorem CleanL.init {p : α} {b : Array α} {l r : Nat} {offs : Array Nat} {startL : Nat} (h : ScanL lt p b l (r - l) offs startL)
    (hs : startL ≤ offs.size) (hlr : l ≤ r) (hsz : r ≤ b.size) : CleanL lt p b l r offs startL offs.size r b :=
  ⟨Frame.refl _ _ _, hsz, hs, hlr, Nat.le_refl _, h.pend lt, fun _ h1 h2 => absurd h2 (Nat.not_lt_of_le h1)⟩

variable {p : α} {b0 b : Array α} {l r : Nat} {offs : Array Nat} {startL endL r' startR endR l' : Nat}

theorem CleanL.step (c : CleanL lt p b0 l r offs startL endL r' b) (hlt : startL < endL) :
    CleanL lt p b0 l r offs startL (endL - 1) (r' - 1) (b.swapIfInBounds (l + offs[endL - 1]!) (r' - 1)) := by
  obtain ⟨frame, hsz, hs, hl, hr, pend, geR⟩ := c
  obtain ⟨e, rfl⟩ : ∃ e, endL = e + 1 := ⟨endL - 1, by omega⟩
  have hx := pend.bound e (Nat.lt_succ_self e)
  obtain ⟨j, rfl⟩ : ∃ j, r' = j + 1 := ⟨r' - 1, by omega⟩
  simp only [Nat.add_sub_cancel]
  -- the last pending position lies in `[l, j]`
  have hxj : l + offs[e]! ≤ j := by omega
  have hlj : l ≤ j := Nat.le_trans (Nat.le_add_right _ _) hxj
  have hjs : j < b.size := Nat.lt_of_lt_of_le hr hsz
  have hpx : lt (at' b (l + offs[e]!)) p = false := pend.pending e (Nat.le_of_lt_succ hlt) (Nat.lt_succ_self e)
  have hsw := fun k => at_swap b (l + offs[e]!) j k (Nat.lt_of_le_of_lt hxj hjs) hjs
  rw [Nat.sub_add_comm hlj] at pend -- the block length as a successor, for `dropLast`
  refine ⟨frame.trans (Frame.swap l r b _ _ (Nat.le_add_right _ _) (Nat.lt_of_le_of_lt hxj hr) hlj hr), by simpa using hsz,
    Nat.le_of_lt_succ hlt, hlj, Nat.le_of_succ_le hr, pend.dropLast fun k hk => ?_, fun i h1 h2 => ?_⟩
  · show lt (at' _ (l + k)) p = false ↔ lt (at' b (l + if k = offs[e]! then j - l else k)) p = false
    rw [hsw, if_neg (Nat.ne_of_lt (Nat.add_lt_of_lt_sub' hk))]
    simp only [Nat.add_left_cancel_iff]
    by_cases ek : k = offs[e]!
    · rw [if_pos ek, if_pos ek, Nat.add_sub_cancel' hlj]
    · rw [if_neg ek, if_neg ek]
  · by_cases ej : i = j
    · -- the pending element has arrived here
      rw [ej, at_swap_right b _ _ (Nat.lt_of_le_of_lt hxj hjs) hjs]; exact hpx
    · have hji : j + 1 ≤ i := Nat.lt_of_le_of_ne h1 (Ne.symm ej)
      rw [at_swap_ne b (Nat.lt_of_le_of_lt hxj hjs) hjs (Nat.ne_of_gt (Nat.lt_of_le_of_lt hxj hji)) ej]; exact geR i hji h2

theorem CleanL.done (c : CleanL lt p b0 l r offs startL endL r' b) (he : endL ≤ startL) :
    Frame l r b0 b ∧ l ≤ r' ∧ r' ≤ r ∧ (∀ i, l ≤ i → i < r' → lt (at' b i) p = true) ∧
    (∀ i, r' ≤ i → i < r → lt (at' b i) p = false) := by
  refine ⟨c.frame, c.hl, c.hr, fun i h1 h2 => ?_, c.geR⟩
  have := c.pend.exhausted he (i - l) (by omega)
  rw [Nat.add_sub_cancel' h1] at this
  exact eq_true_of_ne_false this

theorem pibCleanL_spec (p : α) (l r : Nat) (offs : Array Nat) (startL : Nat) (b : Array α) :
   ⦃fun s => ⌜s.val = b ∧ ScanL lt p b l (r - l) offs startL ∧ startL ≤ offs.size ∧ l ≤ r ∧ r ≤ b.size⌝⦄
   (pibCleanL (a0 := a0) l r offs startL)
   ⦃⇓ r' s => ⌜Frame l r b s.val ∧ l ≤ r' ∧ r' ≤ r ∧ (∀ i, l ≤ i → i < r' → lt (at' s.val i) p = true) ∧
      (∀ i, r' ≤ i → i < r → lt (at' s.val i) p = false)⌝⦄ := by
  rw [pibCleanL_eq]
  exact triple_conseq
    (pibClean_spec _ _ _ r offs startL (fun r' e b' => CleanL lt p b l r offs startL e r' b')
      (fun _ _ _ c => ⟨c.hs, c.pend.he⟩) (fun _ _ _ c h => c.step lt h) b)
    (fun _ ⟨hs, sc, h1, h2, h3⟩ => ⟨hs, CleanL.init lt sc h1 h2 h3⟩) (fun _ _ c => c.done lt (Nat.le_refl _))

/-- invariant of the final clean-up of an unfinished right block: `v[l'..r)` is what is left of the block, with the
    pending offsets `offs[startR..endR)`; `v[l..l')` has received the elements moved out -/
structure CleanR (p : α) (b0 : Array α) (l r : Nat) (offs : Array Nat) (startR endR l' : Nat) (b : Array α) : Prop where
  frame : Frame l r b0 b
  hsz : r ≤ b.size
  hs : startR ≤ endR
  hl : l ≤ l'
  hr : l' ≤ r
  pend : Pend (fun k => lt (at' b (r - 1 - k)) p = true) (r - l') offs startR endR
  ltL : ∀ i, l ≤ i → i < l' → lt (at' b i) p = true

theorem CleanR.init {p : α} {b : Array α} {l r : Nat} {offs : Array Nat} {startR : Nat} (h : ScanR lt p b r (r - l) offs startR)
    (hs : startR ≤ offs.size) (hlr : l ≤ r) (hsz : r ≤ b.size) : CleanR lt p b l r offs startR offs.size l b :=
  ⟨Frame.refl _ _ _, hsz, hs, Nat.le_refl _, hlr, h.pend lt, fun _ h1 h2 => absurd h2 (Nat.not_lt_of_le h1)⟩

theorem CleanR.step (c : CleanR lt p b0 l r offs startR endR l' b) (hlt : startR < endR) :
    CleanR lt p b0 l r offs startR (endR - 1) (l' + 1) (b.swapIfInBounds l' (r - offs[endR - 1]! - 1)) := by
  obtain ⟨frame, hsz, hs, hl, hr, pend, ltL⟩ := c
  obtain ⟨e, rfl⟩ : ∃ e, endR = e + 1 := ⟨endR - 1, by omega⟩
  simp only [Nat.add_sub_cancel]
  rw [Nat.sub_right_comm]
  -- the last pending position lies in `[l', r)`
  have hxr : l' + offs[e]! < r := Nat.add_lt_of_lt_sub' (pend.bound e (Nat.lt_succ_self e))
  obtain ⟨hj1, hj2⟩ := rpos_range hxr
  have hl'r : l' < r := Nat.lt_of_le_of_lt hj1 hj2
  have hpx : lt (at' b (r - 1 - offs[e]!)) p = true := pend.pending e (Nat.le_of_lt_succ hlt) (Nat.lt_succ_self e)
  have hsw := fun k => at_swap b l' (r - 1 - offs[e]!) k (Nat.lt_of_lt_of_le hl'r hsz) (Nat.lt_of_lt_of_le hj2 hsz)
  rw [show r - l' = r - (l' + 1) + 1 by omega] at pend -- the block length as a successor, for `dropLast`
  refine ⟨frame.trans (Frame.swap l r b _ _ hl hl'r (Nat.le_trans hl hj1) hj2), by simpa using hsz, Nat.le_of_lt_succ hlt,
    Nat.le_succ_of_le hl, hl'r, pend.dropLast fun k hk => ?_, fun i h1 h2 => ?_⟩
  · have hk' := rpos_range (Nat.add_lt_of_lt_sub' hk)
    show lt (at' _ (r - 1 - k)) p = true ↔ lt (at' b (r - 1 - if k = offs[e]! then r - (l' + 1) else k)) p = true
    rw [hsw, if_neg (Nat.ne_of_gt hk'.1)]
    simp only [rpos_inj (Nat.lt_of_le_of_lt (Nat.le_add_left _ _) (Nat.add_lt_of_lt_sub' hk))
      (Nat.lt_of_le_of_lt (Nat.le_add_left _ _) hxr)]
    by_cases ek : k = offs[e]!
    · rw [if_pos ek, if_pos ek, Nat.sub_add_eq, Nat.sub_right_comm r l' 1, rpos_rpos hl'r]
    · rw [if_neg ek, if_neg ek]
  · by_cases ei : i = l'
    · -- the pending element has arrived here
      rw [ei, at_swap_left b _ _ (Nat.lt_of_lt_of_le hl'r hsz) (Nat.lt_of_lt_of_le hj2 hsz)]; exact hpx
    · have hil : i < l' := Nat.lt_of_le_of_ne (Nat.le_of_lt_succ h2) ei
      rw [at_swap_ne b (Nat.lt_of_lt_of_le hl'r hsz) (Nat.lt_of_lt_of_le hj2 hsz) ei (Nat.ne_of_lt (Nat.lt_of_lt_of_le hil hj1))]
      exact ltL i h1 hil

theorem CleanR.done (c : CleanR lt p b0 l r offs startR endR l' b) (he : endR ≤ startR) :
    Frame l r b0 b ∧ l ≤ l' ∧ l' ≤ r ∧ (∀ i, l ≤ i → i < l' → lt (at' b i) p = true) ∧
    (∀ i, l' ≤ i → i < r → lt (at' b i) p = false) := by
  refine ⟨c.frame, c.hl, c.hr, c.ltL, fun i h1 h2 => ?_⟩
  have := c.pend.exhausted he (r - 1 - i) (by omega)
  rw [rpos_rpos h2] at this
  exact eq_false_of_ne_true this

theorem pibCleanR_spec (p : α) (l r : Nat) (offs : Array Nat) (startR : Nat) (b : Array α) :
   ⦃fun s => ⌜s.val = b ∧ ScanR lt p b r (r - l) offs startR ∧ startR ≤ offs.size ∧ l ≤ r ∧ r ≤ b.size⌝⦄
   (pibCleanR (a0 := a0) l r offs startR)
   ⦃⇓ l' s => ⌜Frame l r b s.val ∧ l ≤ l' ∧ l' ≤ r ∧ (∀ i, l ≤ i → i < l' → lt (at' s.val i) p = true) ∧
      (∀ i, l' ≤ i → i < r → lt (at' s.val i) p = false)⌝⦄ := by
  rw [pibCleanR_eq]
  exact triple_conseq
    (pibClean_spec _ _ _ l offs startR (fun l' e b' => CleanR lt p b l r offs startR e l' b')
      (fun _ _ _ c => ⟨c.hs, c.pend.he⟩) (fun _ _ _ c h => c.step lt h) b)
    (fun _ ⟨hs, sc, h1, h2, h3⟩ => ⟨hs, CleanR.init lt sc h1 h2 h3⟩) (fun _ _ c => c.done lt (Nat.le_refl _))
end NucleoVerif.PS
