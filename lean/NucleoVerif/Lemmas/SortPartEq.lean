import NucleoVerif.Lemmas.SortBase
open Std.Do
namespace NucleoVerif.PS
set_option mvcgen.warning false
variable {α : Type} [Inhabited α] {a0 : Array α} (lt : α → α → Bool)

/-- facts kept by `partition_equal` (positions counted from `lo + 1`, behind the pivot): `v[..l)` is not greater than
    the pivot `p`, `v[r..)` is -/
structure PEFacts (lo hi : Nat) (a : Array α) (p : α) (l r : Nat) (b : Array α) : Prop where
  frame : Frame lo hi a b
  pivot : at' b lo = p
  l_le : l ≤ r
  r_le : lo + 1 + r ≤ hi
  size : hi ≤ b.size
  left : ∀ i, i < l → lt p (at' b (lo + 1 + i)) = false
  right : ∀ i, r ≤ i → lo + 1 + i < hi → lt p (at' b (lo + 1 + i)) = true

theorem PEFacts.gap_le {lo hi : Nat} {a b : Array α} {p : α} {l r : Nat} (f : PEFacts lt lo hi a p l r b) :
    r - l ≤ hi - lo :=
  have hr : lo + r ≤ hi := Nat.le_trans (Nat.add_le_add_right (Nat.le_succ lo) r) f.r_le
  Nat.le_trans (Nat.sub_le r l) (Nat.le_sub_of_add_le' hr)

theorem PEFacts.init (lo hi pivotIdx : Nat) (a : Array α) (hsz : hi ≤ a.size) (hp : lo + pivotIdx < hi) :
    PEFacts lt lo hi a (at' (a.swapIfInBounds lo (lo + pivotIdx)) lo) 0 (hi - (lo + 1)) (a.swapIfInBounds lo (lo + pivotIdx)) :=
  ⟨Frame.swap lo hi a lo (lo + pivotIdx) (Nat.le_refl _) (by omega) (Nat.le_add_right _ _) hp, rfl, Nat.zero_le _, by omega,
    by rw [size_swap]; exact hsz, fun i hi' => absurd hi' (Nat.not_lt_zero i), fun i h1 h2 => by omega⟩

theorem PEFacts.stepL {lo hi : Nat} {a b : Array α} {p : α} {l r : Nat} (f : PEFacts lt lo hi a p l r b) (hlr : l < r)
    (hc : lt p (at' b (lo + 1 + l)) = false) : PEFacts lt lo hi a p (l + 1) r b := by
  refine { f with l_le := hlr, left := fun i hi' => ?_ }
  by_cases e : i = l
  · rw [e]; exact hc
  · exact f.left i (Nat.lt_of_le_of_ne (Nat.le_of_lt_succ hi') e)

theorem PEFacts.stepR {lo hi : Nat} {a b : Array α} {p : α} {l r : Nat} (f : PEFacts lt lo hi a p l r b) (hlr : l < r)
    (hc : lt p (at' b (lo + 1 + r - 1)) = true) : PEFacts lt lo hi a p l (r - 1) b := by
  obtain ⟨k, rfl⟩ : ∃ k, r = k + 1 := ⟨r - 1, by omega⟩
  rw [Nat.add_succ_sub_one] at hc
  rw [Nat.add_sub_cancel]
  refine { f with l_le := Nat.le_of_lt_succ hlr, r_le := Nat.le_of_succ_le f.r_le, right := fun i h1 h2 => ?_ }
  by_cases e : i = k
  · rw [e]; exact hc
  · exact f.right i (Nat.lt_of_le_of_ne h1 (Ne.symm e)) h2

theorem PEFacts.swap {lo hi : Nat} {a b : Array α} {p : α} {l r : Nat} (f : PEFacts lt lo hi a p l r b) (hlr : l < r)
    (hc1 : lt p (at' b (lo + 1 + l)) = true) (hc2 : lt p (at' b (lo + 1 + r - 1)) = false) :
    PEFacts lt lo hi a p (l + 1) (r - 1) (b.swapIfInBounds (lo + 1 + l) (lo + 1 + (r - 1))) := by
  obtain ⟨k, rfl⟩ : ∃ k, r = k + 1 := ⟨r - 1, by omega⟩
  rw [Nat.add_succ_sub_one] at hc2
  rw [Nat.add_sub_cancel]
  have hr := f.r_le
  have hlk : l < k := by
    refine Nat.lt_of_le_of_ne (Nat.le_of_lt_succ hlr) fun e => ?_
    rw [e, hc2] at hc1; cases hc1
  have hbk : lo + 1 + k < b.size := Nat.lt_of_lt_of_le f.r_le f.size
  have hbl : lo + 1 + l < b.size := Nat.lt_trans (Nat.add_lt_add_left hlk _) hbk
  have at_o := fun i (h1 : i ≠ l) (h2 : i ≠ k) => at_swap_add_ne b hbl hbk h1 h2
  refine ⟨f.frame.trans (Frame.swap lo hi b _ _ (by omega) (by omega) (by omega) f.r_le), ?_, hlk, Nat.le_of_succ_le f.r_le,
    by rw [size_swap]; exact f.size, fun i hi' => ?_, fun i h1 h2 => ?_⟩
  · rw [at_swap_ne b hbl hbk (by omega) (by omega)]; exact f.pivot
  · by_cases e : i = l
    · rw [e, at_swap_left b _ _ hbl hbk]; exact hc2
    · rw [at_o i e (by omega)]; exact f.left i (Nat.lt_of_le_of_ne (Nat.le_of_lt_succ hi') e)
  · by_cases e : i = k
    · rw [e, at_swap_right b _ _ hbl hbk]; exact hc1
    · rw [at_o i (by omega) e]; exact f.right i (Nat.lt_of_le_of_ne h1 (Ne.symm e)) h2

theorem PEFacts.exit (h : SWO lt) {lo hi : Nat} {a b : Array α} {p : α} {l r : Nat} (f : PEFacts lt lo hi a p l r b)
    (hlr : l ≥ r) : EqPost lt lo hi a p (l + 1) b := by
  have hr := f.r_le
  have hl := f.l_le
  refine ⟨f.frame, Nat.succ_pos l, by omega, fun i h1 h2 => ?_, fun i h1 h2 => ?_⟩
  · by_cases e : i = lo
    · rw [e, f.pivot]; exact h.irrefl p
    · obtain ⟨x, rfl⟩ : ∃ x, i = lo + 1 + x := ⟨i - (lo + 1), by omega⟩
      exact f.left x (by omega)
  · obtain ⟨x, rfl⟩ : ∃ x, i = lo + 1 + x := ⟨i - (lo + 1), by omega⟩
    exact f.right x (by omega) h2

/-- `partition_equal` with its two inner loops named (by `rfl`) -/
theorem partitionEqual_eq (lo hi pivotIdx : Nat) : partitionEqual (a0 := a0) lt lo hi pivotIdx = (do
    swp lo (lo + pivotIdx)
    let p ← rd lo
    let mut l := 0
    let mut r := hi - (lo + 1)
    for _ in [0:hi - lo + 1] do
      l ← scanWhile (· < r) (fun l => lo + 1 + l) (fun x => !lt p x) (· + 1) (hi - lo) l
      r ← scanWhile (l < ·) (fun r => lo + 1 + r - 1) (fun x => lt p x) (· - 1) (hi - lo) r
      if l ≥ r then break
      r := r - 1
      swp (lo + 1 + l) (lo + 1 + r)
      l := l + 1
    return l + 1) := rfl

theorem partitionEqual_spec (h : SWO lt) : PartitionEqualSpec lt := by
  intro a0 lo hi pivotIdx a
  -- neither scan can take `hi - lo` steps, so each stops at an element on the wrong side (or at `l ≥ r`); the scan from
  -- the right remembers where the scan from the left has stopped
  have hL := fun (p : α) (l r : Nat) =>
    scanWhile_spec (a0 := a0) (· < r) (fun l => lo + 1 + l) (fun x => !lt p x) (· + 1) (hi - lo) l
      (fun l' b => PEFacts lt lo hi a p l' r b ∧ l ≤ l') (fun l' => r - l')
      (fun l' b f hg hc => ⟨⟨f.1.stepL lt hg ((Bool.not_eq_true' _).mp hc), Nat.le_succ_of_le f.2⟩, scan_up_lt hg⟩)
      (fun b f => f.1.gap_le)
  have hR := fun (p : α) (l r : Nat) =>
    scanWhile_spec (a0 := a0) (l < ·) (fun r => lo + 1 + r - 1) (fun x => lt p x) (· - 1) (hi - lo) r
      (fun r' b => PEFacts lt lo hi a p l r' b ∧ r' ≤ r ∧ (l < r → lt p (at' b (lo + 1 + l)) = true)) (fun r' => r' - l)
      (fun r' b f hg hc => ⟨⟨f.1.stepR lt hg hc, Nat.le_trans (Nat.sub_le _ _) f.2.1, f.2.2⟩, scan_down_lt hg⟩)
      (fun b f => f.1.gap_le)
  rw [partitionEqual_eq]
  mvcgen -trivial -leave [rd_spec, swp_spec, hL, hR]
  case inv1 => -- the pivot value is read where the first swap has put it
    exact ⇓ ⟨xs, ⟨l, r⟩⟩ s => ⌜PEFacts lt lo hi a (at' (a.swapIfInBounds lo (lo + pivotIdx)) lo) l r s.val ∧
      ((xs.suffix.length = 0 ∧ l ≥ r) ∨ lo + 1 + r + xs.prefix.length ≤ l + hi)⌝
  case vc1 => -- the scan from the left starts
    rename_i s0 hpre pref cur suff hsplit bb r s hinv
    obtain ⟨rfl, hsz, hpv⟩ := hpre
    exact SPred.pure_intro ⟨hinv.1, Nat.le_refl _⟩
  case vc2 => -- the scan from the right starts where the other (`hL'`) has stopped
    rename_i s0 hpre pref cur suff hsplit bb r s1 hinv l' s hL'
    exact SPred.pure_intro ⟨hL'.1.1, Nat.le_refl _, fun hlt => eq_true_of_not_bnot fun e => hL'.2 ⟨hlt, e⟩⟩
  case vc3 => -- the scans (`hL'`, `hR'`) have met: `break`
    rename_i s0 hpre pref cur suff hsplit bb r s1 hinv l' s2 hL' r' hge s hR'
    obtain ⟨rfl, hsz, hpv⟩ := hpre
    exact SPred.pure_intro ⟨hR'.1.1, Or.inl ⟨rfl, hge⟩⟩
  case vc4 => -- they have not: both stand on an element of the wrong side, the two are exchanged
    rename_i s0 hpre pref cur suff hsplit bb r s1 hinv l' s2 hL' r' hge r'' s hR'
    obtain ⟨rfl, hsz, hpv⟩ := hpre
    have hcnt : lo + 1 + bb.2 + pref.length ≤ bb.1 + hi := running_of_cons hinv.2
    obtain ⟨⟨f, hr', hc1⟩, hstop⟩ := hR'
    have hr' : r' ≤ bb.2 := hr'
    have hl' : bb.1 ≤ l' := hL'.1.2
    have hlt : l' < r' := Nat.not_le.1 hge
    have c2 := eq_false_of_ne_true fun e => hstop ⟨hlt, e⟩
    refine SPred.pure_intro ⟨f.swap lt hlt (hc1 (Nat.lt_of_lt_of_le hlt hr')) c2, Or.inr ?_⟩
    rw [List.length_append]
    show lo + 1 + (r' - 1) + (pref.length + 1) ≤ l' + 1 + hi
    omega
  case vc5 => -- on entry, after the first swap
    rename_i s hpre
    obtain ⟨rfl, hsz, hpv⟩ := hpre
    have f := PEFacts.init lt lo hi pivotIdx s.val hsz hpv
    exact SPred.pure_intro ⟨f, Or.inr ((Nat.zero_add hi).symm ▸ f.r_le)⟩
  case vc6 => -- after the loop
    rename_i s0 hpre bb s hinv
    obtain ⟨rfl, hsz, hpv⟩ := hpre
    obtain ⟨f, h1⟩ := hinv
    refine SPred.pure_intro ?_
    rw [← at_swap_left s0.val lo (lo + pivotIdx) (by omega) (by omega)]
    refine f.exit lt h (h1.elim And.right fun h1 => ?_)
    -- all `hi - lo + 1` iterations done
    simp only [range_length] at h1
    have := f.r_le; have := f.l_le
    omega
end NucleoVerif.PS
