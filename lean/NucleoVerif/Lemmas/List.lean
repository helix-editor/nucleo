/-! List facts that several parts use. -/
namespace NucleoVerif

section insertion
/-! Insertion sort, for any `ins` that puts `x` before the first `y` with `p x y` (the model has three such functions:
`insertNat`, `insertDesc`, `insertMatch`; the two equations hold by `rfl` for each). -/
variable {α : Type} {p : α → α → Prop} [DecidableRel p] {ins : α → List α → List α}
  (h0 : ∀ x, ins x [] = [x])
  (h1 : ∀ x y ys, ins x (y :: ys) = if p x y then x :: y :: ys else y :: ins x ys)
include h0 h1

theorem ins_perm (x : α) : ∀ l, (ins x l).Perm (x :: l)
  | [] => h0 x ▸ List.Perm.refl _
  | y :: ys => by
    rw [h1]
    split
    · exact List.Perm.refl _
    · exact ((ins_perm x ys).cons y).trans (List.Perm.swap x y ys)

theorem foldr_ins_perm : ∀ l : List α, (l.foldr ins []).Perm l
  | [] => List.Perm.refl _
  | x :: xs => (ins_perm h0 h1 x _).trans ((foldr_ins_perm xs).cons x)

variable {R : α → α → Prop} (hp : ∀ x y, p x y → R x y) (hn : ∀ x y, ¬ p x y → R y x)
  (tr : ∀ x y z, R x y → R y z → R x z)
include hp hn tr

theorem ins_sorted (x : α) : ∀ l, l.Pairwise R → (ins x l).Pairwise R
  | [], _ => h0 x ▸ List.pairwise_singleton R x
  | y :: ys, hs => by
    have hy := List.pairwise_cons.mp hs
    rw [h1]
    split
    · next hxy =>
      refine List.pairwise_cons.mpr ⟨fun z hz => ?_, hs⟩
      rcases List.mem_cons.mp hz with rfl | hz
      · exact hp _ _ hxy
      · exact tr _ _ _ (hp _ _ hxy) (hy.1 z hz)
    · next hxy =>
      refine List.pairwise_cons.mpr ⟨fun z hz => ?_, ins_sorted x ys hy.2⟩
      rcases List.mem_cons.mp ((ins_perm h0 h1 x ys).subset hz) with rfl | hz
      · exact hn _ _ hxy
      · exact hy.1 z hz

theorem foldr_ins_sorted : ∀ l : List α, (l.foldr ins []).Pairwise R
  | [] => List.Pairwise.nil
  | x :: xs => ins_sorted h0 h1 hp hn tr x _ (foldr_ins_sorted xs)

end insertion
end NucleoVerif
