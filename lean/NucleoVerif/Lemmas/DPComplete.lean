import NucleoVerif.Lemmas.DP
/-! Completeness of the recurrence: when the needle is a subsequence of the window's (normalized) characters,
the last row contains a cell, so the optimal matcher reports a match. -/
namespace NucleoVerif.DP
open Gen Spec

def cellAt (row : List (Option Cell)) (k : Nat) : Bool :=
  match row[k]? with
  | some (some _) => true
  | _ => false

theorem cellAt_zero (m : Option Cell) (ms : List (Option Cell)) : cellAt (m :: ms) 0 = m.isSome := by
  cases m <;> rfl

theorem cellAt_succ (m : Option Cell) (ms : List (Option Cell)) (k : Nat) : cellAt (m :: ms) (k + 1) = cellAt ms k := rfl

theorem pScore_isSome (m : Option Cell) (p : Option PCell) : (pScore m p).isSome = (m.isSome || p.isSome) := by
  cases m with
  | none => cases p <;> rfl
  | some m =>
    cases p with
    | none => rfl
    | some p =>
      simp only [pScore]
      split <;> rfl

theorem nextM_isSome (p : Option PCell) (b : Nat) (m : Option Cell) (col : Nat) :
    (nextM p b m col).isSome = (m.isSome || p.isSome) := by
  cases m with
  | none => cases p <;> rfl
  | some m =>
    cases p with
    | none => rfl
    | some p =>
      simp only [nextM]
      rw [apply_ite Option.isSome]
      exact ite_self _

theorem nextRow_length (nc : Nat) (row : List (Option Cell)) (cols : List Col) (h : row.length = cols.length) :
    (nextRow nc row cols).length = cols.length := by
  cases cols with
  | nil => rfl
  | cons c cs =>
    rw [nextRow_cons, List.length_cons, zipGo_length, h, List.length_cons]
    omega

theorem allRows_length (cols : List Col) : ∀ (ns : List Nat) (row : List (Option Cell)), row.length = cols.length →
    (allRows cols ns row).length = cols.length := by
  intro ns
  induction ns with
  | nil => intro row h; exact h
  | cons nc ns ih => intro row h; exact ih _ (nextRow_length nc row cols h)

/-- A column that carries `nc` gets a cell as soon as some column of the old row at or before it has one: the `P` chain
    hands that cell's alignment on, gap by gap, to the column. -/
theorem zipGo_has (nc : Nat) :
    ∀ (ms : List (Option Cell)) (cs : List Col) (prevM : Option Cell) (p : Option PCell) (k : Nat),
      (∃ c1, cs[k]? = some c1 ∧ c1.ch = nc) → k < ms.length →
      ((pScore prevM p).isSome = true ∨ ∃ k', k' ≤ k ∧ cellAt ms k' = true) →
      cellAt (zipGo nc ms cs prevM p) k = true := by
  intro ms
  induction ms with
  | nil => intro _ _ _ k _ hk; cases hk
  | cons mj ms ih =>
    intro cs prevM p k hcol hk hsrc
    obtain ⟨c1, h1, h2⟩ := hcol
    cases cs with
    | nil => cases h1
    | cons cj1 cs =>
      cases k with
      | zero =>
        cases h1
        rw [zipGo, cellAt_zero, if_pos h2, nextM_isSome]
        rcases hsrc with h | ⟨k', hk', hc⟩
        · rw [h, Bool.or_true]
        · rw [Nat.le_zero.mp hk', cellAt_zero] at hc
          rw [hc, Bool.true_or]
      | succ k =>
        rw [zipGo, cellAt_succ]
        refine ih cs mj _ k ⟨c1, h1, h2⟩ (Nat.lt_of_succ_lt_succ hk) ?_
        rw [pScore_isSome]
        rcases hsrc with h | ⟨k', hk', hc⟩
        · exact Or.inl (by rw [h, Bool.or_true])
        · cases k' with
          | zero => rw [cellAt_zero] at hc; exact Or.inl (by rw [hc, Bool.true_or])
          | succ k' => exact Or.inr ⟨k', Nat.le_of_succ_le_succ hk', hc⟩

theorem nextRow_has (nc : Nat) (row : List (Option Cell)) (cols : List Col) (k : Nat)
    (hcol : ∃ c1, cols[k + 1]? = some c1 ∧ c1.ch = nc) (hk : k < row.length)
    (hsrc : ∃ k', k' ≤ k ∧ cellAt row k' = true) : cellAt (nextRow nc row cols) (k + 1) = true := by
  cases cols with
  | nil => obtain ⟨c1, h1, _⟩ := hcol; cases h1
  | cons c0 cs =>
    rw [nextRow_cons, cellAt_succ]
    exact zipGo_has nc row cs none none k hcol hk (Or.inr hsrc)

theorem firstRow_has (n0 : Nat) (cols : List Col) (pb : Nat) (k : Nat) (h : ∃ c, cols[k]? = some c ∧ c.ch = n0) :
    cellAt (firstRow n0 cols pb) k = true := by
  obtain ⟨c, h1, h2⟩ := h
  rw [cellAt, firstRow_getElem?, h1, Option.map_some, if_pos h2]

theorem bestCell_isSome : ∀ (row : List (Option Cell)) (best : Option Cell),
    (best.isSome = true ∨ ∃ k, cellAt row k = true) → (bestCell row best).isSome = true := by
  intro row
  induction row with
  | nil =>
    intro best h
    rcases h with h | ⟨k, hk⟩
    · exact h
    · cases hk
  | cons m ms ih =>
    intro best h
    cases m with
    | none =>
      refine ih best (h.imp_right fun ⟨k, hk⟩ => ?_)
      cases k with
      | zero => cases hk
      | succ k => exact ⟨k, hk⟩
    | some c =>
      cases best with
      | none => exact ih _ (Or.inl rfl)
      | some b =>
        rw [bestCell]
        split <;> exact ih _ (Or.inl rfl)

theorem setupMatched_subseqB : ∀ (cols : List Col) (ns : List Nat), setupMatched ns cols = subseqB ns (cols.map (·.ch)) := by
  intro cols
  induction cols with
  | nil => intro ns; cases ns <;> rfl
  | cons c cs ih =>
    intro ns
    cases ns with
    | nil => rfl
    | cons nc ns =>
      rw [setupMatched, List.map_cons, subseqB, ih, ih]
      by_cases e : c.ch = nc
      · rw [if_pos e, if_pos e.symm]
      · rw [if_neg e, if_neg (Ne.symm e)]

theorem subseqB_cols_first (nc : Nat) (ns : List Nat) : ∀ (cols : List Col), subseqB (nc :: ns) (cols.map (·.ch)) = true →
    ∃ i c, cols[i]? = some c ∧ c.ch = nc ∧ subseqB ns ((cols.drop (i + 1)).map (·.ch)) = true := by
  intro cols
  induction cols with
  | nil => intro h; cases h
  | cons c cs ih =>
    intro h
    rw [List.map_cons, subseqB] at h
    split at h
    · exact ⟨0, c, rfl, (‹nc = c.ch›).symm, h⟩
    · obtain ⟨i, d, h1, h2, h3⟩ := ih h
      exact ⟨i + 1, d, h1, h2, h3⟩

theorem allRows_complete (cols : List Col) : ∀ (ns : List Nat) (row : List (Option Cell)), row.length = cols.length →
    (∃ j, cellAt row j = true ∧ subseqB ns ((cols.drop (j + 1)).map (·.ch)) = true) →
    ∃ j, cellAt (allRows cols ns row) j = true := by
  intro ns
  induction ns with
  | nil => intro row _ ⟨j, hj, _⟩; exact ⟨j, hj⟩
  | cons nc ns ih =>
    intro row hlen ⟨j, hj, hsub⟩
    apply ih _ (nextRow_length nc row cols hlen)
    -- the next needle character occurs at column `j + 1 + i`; the cell at `j` is a source for it
    obtain ⟨i, c, hc1, hc2, hc3⟩ := subseqB_cols_first nc ns (cols.drop (j + 1)) hsub
    rw [List.getElem?_drop] at hc1
    rw [List.drop_drop] at hc3
    have hlt : j + 1 + i < cols.length := (List.getElem?_eq_some_iff.mp hc1).1
    refine ⟨j + i + 1, nextRow_has nc row cols (j + i) ⟨c, by rw [← hc1, Nat.add_right_comm], hc2⟩
      (hlen ▸ Nat.lt_of_succ_lt (show j + i + 1 < cols.length from Nat.add_right_comm j 1 i ▸ hlt))
      ⟨j, Nat.le_add_right j i, hj⟩, ?_⟩
    rw [show j + i + 1 + 1 = j + 1 + (i + 1) by omega]
    exact hc3

theorem optimalDP_isSome (cfg : Cfg) (ext : Ext) (hrep : Rep) (h : List Nat) (n0 : Nat) (ns : List Nat) (start end_ : Nat) :
    (optimalDP cfg ext hrep h (n0 :: ns) start end_).isSome =
      subseqB (n0 :: ns) ((windowCols cfg ext hrep h start end_).map (·.ch)) := by
  unfold optimalDP
  simp only
  generalize windowCols cfg ext hrep h start end_ = cols
  rw [setupMatched_subseqB]
  cases hs : subseqB (n0 :: ns) (cols.map (·.ch)) with
  | false => rfl
  | true =>
    simp only [Bool.not_true, Bool.false_eq_true, if_false, Option.isSome_map]
    obtain ⟨i, c, hc1, hc2, hc3⟩ := subseqB_cols_first n0 ns cols hs
    have hrow := firstRow_has n0 cols (prefixStart cfg start) i ⟨c, hc1, hc2⟩
    obtain ⟨j, hj⟩ := allRows_complete cols ns _ (firstRow_length n0 cols _) ⟨i, hrow, hc3⟩
    exact bestCell_isSome _ none (Or.inr ⟨j, hj⟩)

end NucleoVerif.DP
