import NucleoVerif.Lemmas.OptFinish
/-! The side conditions of the index arithmetic (`optimalSafe`) hold wherever the invariants `Inv` and `At` do. -/
namespace NucleoVerif.OptImpl
open NucleoVerif NucleoVerif.Gen NucleoVerif.Gen.Opt NucleoVerif.DP

theorem traceSafe_at (c : Ctx) (g : Good c) (cells : List MatrixCell)
    (hcl : cells.length = c.seg (c.n.length - 1))
    (hfacts : ∀ r, r + 2 ≤ c.n.length → RowFacts c r cells) :
    ∀ (fuel r col : Nat) (matched : Bool) (path : List Nat), At c r col matched path → r + (c.so r + col) < fuel →
      traceSafe cells c.width c.offs fuel ⟨r, col, matched, []⟩ = true := by
  -- not the `rfl` lemma itself: `simp` must rewrite under `decide`, instances included
  have hso : ∀ r, c.offs.getD r 0 = c.so r := c.offs_getD
  intro fuel
  induction fuel with
  | zero => intro r col matched path _ hf; exact absurd hf (Nat.not_lt_zero _)
  | succ fuel ih =>
    intro r col matched path a hfuel
    obtain ⟨h1, h2, h3, h4⟩ := a.here g hcl
    cases matched with
    | false =>
      obtain ⟨hcol, a'⟩ := a.step_p g hcl hfacts
      simp only [traceSafe, Bool.false_eq_true, if_false, hso, Bool.and_eq_true, decide_eq_true_eq]
      exact ⟨⟨⟨⟨⟨h1, h2⟩, h3⟩, h4⟩, hcol⟩, ih r (col - 1) _ path a' (by omega)⟩
    | true =>
      cases r with
      | zero =>
        simp only [traceSafe, if_true, hso, Bool.and_eq_true, decide_eq_true_eq]
        exact ⟨⟨⟨h1, h2⟩, h3⟩, h4⟩
      | succ r =>
        obtain ⟨src, _, _, _, a'⟩ := a.step_m g hcl hfacts
        have hup := g.trace_up a'.hr col
        simp only [traceSafe, if_true, hso, Bool.and_eq_true, decide_eq_true_eq]
        refine ⟨⟨⟨⟨⟨⟨h1, h2⟩, h3⟩, h4⟩, Nat.le_of_lt (g.hinc r a'.hr)⟩, ?_⟩, ?_⟩
        · exact Nat.le_trans (Nat.succ_le_of_lt (Nat.sub_pos_of_lt (g.hinc r a'.hr))) (Nat.le_add_left ..)
        · generalize col + (c.so (r + 1) - c.so r) - 1 = col' at a' hup ⊢
          exact ih r col' _ src a' (by omega)

theorem traceSafe_spec (c : Ctx) (g : Good c) (cells : List MatrixCell)
    (hcl : cells.length = c.seg (c.n.length - 1))
    (hfacts : ∀ r, r + 2 ≤ c.n.length → RowFacts c r cells) :
    ∀ (fuel r col : Nat) (matched : Bool) (path : List Nat) (st : NStep),
      r + 2 ≤ c.n.length →
      (c.steps r)[c.so r - c.ro r + col]? = some st →
      c.so r + col + (c.n.length - 1 - r) < c.cols.length →
      (if matched then mpath st.m else ppath st.p') = some path →
      r + (c.so r + col) < fuel →
      traceSafe cells c.width c.offs fuel ⟨r, col, matched, []⟩ = true :=
  fun fuel r col matched path st hr hst hcol hpath =>
    traceSafe_at c g cells hcl hfacts fuel r col matched path
      ⟨hr, c.lt_width_add (by omega) hcol, _, st, by rw [← Nat.add_assoc, Nat.add_sub_cancel' (c.ro_le_so r)], hst, hpath⟩

/-- every `score_row` call the model makes, `setup`'s (row 0, scanned from column 0) and `populate_matrix`'s -/
theorem scoreRowSafe_row (c : Ctx) (g : Good c) (i : Nat) (hi : i + 2 ≤ c.n.length) (curLen cellsLen : Nat)
    (hcur : c.width ≤ curLen) (hcells : c.L i ≤ cellsLen) :
    scoreRowSafe curLen cellsLen c.cols.length (c.ro i) (c.so (i + 1)) i = true := by
  have h1 := g.le_ro (Nat.lt_of_succ_lt hi)
  have h2 := g.ro_gap hi
  have h3 := g.so_lt (r := i + 1) hi
  have h4 := g.so_lt_cols (r := i + 1) hi
  rw [c.L_eq_of_le h1] at hcells
  unfold scoreRowSafe
  -- `next_row_off - 1` is `ro i + gap i`
  rw [← h2] at h3 h4 ⊢
  simp only [Nat.add_sub_cancel, Bool.and_eq_true, decide_eq_true_eq]
  omega

theorem rowSafe_later (c : Ctx) (g : Good c) (clen : Nat) (hclen : c.seg (c.n.length - 1) ≤ clen) (i : Nat) (hi1 : 1 ≤ i) (hi2 : i + 2 ≤ c.n.length)
    (s : PState) (inv : Inv c clen i s) :
    (scoreRowSafe s.cur.length (s.cells.length - s.off) c.cols.length (c.so i) (c.so (i + 1)) i &&
      decide (c.so i ≤ c.width + i) && decide (s.off + (c.width + i - c.so i) ≤ s.cells.length)) = true := by
  obtain ⟨j, rfl⟩ : ∃ j, i = j + 1 := ⟨i - 1, by omega⟩
  -- the row's segment lies inside the cells
  have hseg : c.seg (j + 2) ≤ clen := Nat.le_trans (seg_le_last c g hi2) hclen
  have hsr := scoreRowSafe_row c g (j + 1) hi2 s.cur.length (s.cells.length - s.off) (Nat.le_of_eq inv.hcur.symm)
    (by rw [inv.hcells, inv.hoff]; exact Nat.le_sub_of_add_le' (seg_succ c g (j + 1) hi2 ▸ hseg))
  rw [c.ro_succ] at hsr
  rw [hsr, inv.hoff, inv.hcells, ← c.seg_add_two j]
  simp only [Bool.true_and, Bool.and_eq_true, decide_eq_true_eq]
  exact ⟨Nat.le_of_lt (g.so_lt (Nat.lt_of_succ_lt hi2)), hseg⟩

theorem populateSafe_drop (cols : List Col) (width : Nat) (n offs : List Nat) (hl : offs.length = n.length) (i : Nat)
    (hi : i + 2 ≤ n.length) (s : PState) :
    populateSafe cols width i (n.drop i) (offs.drop i) s =
      (scoreRowSafe s.cur.length (s.cells.length - s.off) cols.length (offs.getD i 0) (offs.getD (i + 1) 0) i &&
        decide (offs.getD i 0 ≤ width + i) && decide (s.off + (width + i - offs.getD i 0) ≤ s.cells.length) &&
        populateSafe cols width (i + 1) (n.drop (i + 1)) (offs.drop (i + 1))
          (rowStep false cols width s (offs.getD i 0) (offs.getD (i + 1) 0) i (n.getD i 0) (n.getD (i + 1) 0) 0)) := by
  have h0 : i < n.length := Nat.lt_of_succ_lt hi
  rw [drop_eq_getD_cons n i h0, drop_eq_getD_cons offs i (hl ▸ h0), drop_eq_getD_cons n (i + 1) hi,
    drop_eq_getD_cons offs (i + 1) (hl ▸ hi)]
  rfl

theorem populateSafe_last (cols : List Col) (width : Nat) (n offs : List Nat) (i : Nat) (hi : n.length ≤ i + 1) (s : PState) :
    populateSafe cols width i (n.drop i) (offs.drop i) s = true := by
  have hlen : (n.drop i).length ≤ 1 := by rw [List.length_drop]; exact Nat.sub_le_of_le_add (Nat.add_comm .. ▸ hi)
  match h : n.drop i, hlen with
  | [], _ => rfl
  | [_], _ => rfl

theorem populateSafe_loop (c : Ctx) (g : Good c) (clen : Nat) (hclen : c.seg (c.n.length - 1) ≤ clen) (k i : Nat) (s : PState)
    (hk : i + k + 1 = c.n.length) (hi : 1 ≤ i) (inv : Inv c clen i s) :
    populateSafe c.cols c.width i (c.n.drop i) (c.offs.drop i) s = true := by
  induction k generalizing i s with
  | zero => exact populateSafe_last _ _ _ _ _ (Nat.le_of_eq hk.symm) s
  | succ k ih =>
    have hi2 : i + 2 ≤ c.n.length := by omega
    have hnext := ih (i + 1)
      (rowStep false c.cols c.width s (c.offs.getD i 0) (c.offs.getD (i + 1) 0) i (c.n.getD i 0) (c.n.getD (i + 1) 0) 0)
      (by omega) (Nat.le_succ_of_le hi) (populate_step c g clen hclen i hi hi2 _ s inv)
    rw [populateSafe_drop _ _ _ _ g.hlen i hi2, hnext, Bool.and_true]
    exact rowSafe_later c g clen hclen i hi hi2 s inv

theorem populateSafe_spec (c : Ctx) (g : Good c) (clen : Nat) (hclen : c.seg (c.n.length - 1) ≤ clen) :
    ∀ (rest : List Nat) (i nc nnc ro nro : Nat) (offs' : List Nat) (s : PState), 1 ≤ i →
      c.n.drop i = nc :: nnc :: rest → c.offs.drop i = ro :: nro :: offs' → Inv c clen i s →
      populateSafe c.cols c.width i (nc :: nnc :: rest) (ro :: nro :: offs') s = true := by
  intro rest i nc nnc ro nro offs' s hi hn ho inv
  have hlen : i + (rest.length + 1) + 1 = c.n.length := by
    have := congrArg List.length hn
    rw [List.length_drop, List.length_cons, List.length_cons] at this
    omega
  rw [← hn, ← ho]
  exact populateSafe_loop c g clen hclen (rest.length + 1) i s hlen hi inv

theorem populateSafe_run (c : Ctx) (g : Good c) {n0 n1 : Nat} {ns : List Nat} (hn : c.n = n0 :: n1 :: ns)
    (cur0 : List ScoreCell) (cells0 : List MatrixCell) (hcur : cur0.length = c.width)
    (hseg : c.seg (c.n.length - 1) ≤ cells0.length) :
    populateSafe c.cols c.width 1 (n1 :: ns) c.offs.tail (setupRow c.cols c.width (c.so 1) n0 n1 c.pb cur0 cells0) =
      true := by
  have hN := g.hN
  have hns : n1 :: ns = c.n.drop 1 := by rw [hn]; rfl
  rw [hns, ← List.drop_one]
  exact populateSafe_loop c g cells0.length hseg (c.n.length - 2) 1 _ (by omega) (Nat.le_refl _)
    (setup_spec c g hn cur0 cells0 hcur hseg)

theorem optimalSafe_ctx (cfg : Cfg) (c : Ctx) (g : Good c) (start : Nat)
    (hoffs : rowOffs c.n c.cols = c.offs) (hpb : prefix_bonus_init cfg.preferPrefix start = c.pb)
    (cur0 : List ScoreCell) (cells0 : List MatrixCell) (hcur : cur0.length = c.width)
    (hcells : c.width * c.n.length ≤ cells0.length) :
    optimalSafe cfg c.cols c.n start cur0 cells0 = true := by
  obtain ⟨n0, n1, ns, hn⟩ := g.needle
  obtain ⟨i, hi⟩ : ∃ i, i + 2 = c.n.length := ⟨ns.length, by rw [hn]; rfl⟩
  have hseg := seg_last_le c g hcells
  have hwc : c.width ≤ cells0.length := Nat.le_trans (Nat.le_mul_of_pos_right _ (by omega)) hcells
  have hwa := g.width_add
  have hps := populateSafe_run c g hn cur0 cells0 hcur hseg
  have inv := populate_run c g hn cur0 cells0 hcur hseg
  -- from here on the last row is `i + 1`, the one the traceback starts in is `i`
  rw [show c.n.length - 1 = i + 1 from Nat.sub_eq_of_eq_add hi.symm] at hseg inv
  generalize hS : populateGo c.cols c.width 1 (n1 :: ns) c.offs.tail
    (setupRow c.cols c.width (c.so 1) n0 n1 c.pb cur0 cells0) = S at inv
  have hsr : scoreRowSafe cur0.length cells0.length c.cols.length 0 (c.so 1) 0 = true :=
    scoreRowSafe_row c g 0 g.hN _ _ (Nat.le_of_eq hcur.symm) hwc
  obtain ⟨e, sc, _, src, x, hmax, hsc, _, _, hx, _, a⟩ := best_spec c g cells0.length i hi S inv
  obtain ⟨hlen, hfacts⟩ := inv.take_cells g hi hseg
  obtain ⟨hxlt, _⟩ := List.getElem?_eq_some_iff.mp hx
  have hi1 : i + 1 < c.n.length := hi ▸ Nat.lt_succ_self (i + 1)
  have hlo := g.le_so hi1
  have hinc := g.hinc i hi1
  have tr := traceSafe_at c g _ hlen hfacts (c.cols.length + (i + 2) + 1) i _ sc.matched src a (hi ▸ a.fuel_lt g)
  have hoffS : S.off ≤ S.cells.length := by rw [inv.hoff, inv.hcells]; exact hseg
  unfold optimalSafe
  rw [hn]
  simp only [← hn, hoffs, hpb, g.hlen, ne_eq, not_true_eq_false, if_false, Ctx.offs_getD]
  rw [show c.cols.length + 1 - c.n.length = c.width from rfl, hS, hps, hsr, ← hi]
  simp only [show i + 2 - 1 = i + 1 from rfl, show i + 2 - 2 = i from rfl,
    show c.so (i + 1) + 1 - (i + 2) = c.so (i + 1) - (i + 1) from Nat.add_sub_add_right .., hmax, hsc, tr, inv.hcur,
    Bool.and_true, Bool.and_eq_true, decide_eq_true_eq]
  omega

end NucleoVerif.OptImpl
