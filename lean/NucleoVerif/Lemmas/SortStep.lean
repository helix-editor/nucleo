import NucleoVerif.Lemmas.SortBlocks
open Std.Do
namespace NucleoVerif.PS
open Gen
set_option mvcgen.warning false
variable {α : Type} [Inhabited α] {a0 : Array α} (lt : α → α → Bool)

/-- Invariant of the main loop of `partition_in_blocks` between iterations: `v[lo..l)` is smaller than the pivot, `v[r..hi)`
    is not (`ltL`, `geR`).  At most one block has pending offsets (`one`); the scan of that block is still valid and the
    block fits into the gap `[l, r)` (`pendL`, `pendR`). -/
structure PibInv (p : α) (lo hi : Nat) (a : Array α) (st : PibState) (b : Array α) : Prop where
  frame : Frame lo hi a b
  hsz : hi ≤ b.size
  hl : lo ≤ st.l
  hlr : st.l ≤ st.r
  hr : st.r ≤ hi
  ltL : ∀ i, lo ≤ i → i < st.l → lt (at' b i) p = true
  geR : ∀ i, st.r ≤ i → i < hi → lt (at' b i) p = false
  sL : st.startL ≤ st.offsL.size
  sR : st.startR ≤ st.offsR.size
  pendL : st.startL < st.offsL.size → ScanL lt p b st.l st.blockL st.offsL st.startL ∧ st.l + st.blockL ≤ st.r
  pendR : st.startR < st.offsR.size → ScanR lt p b st.r st.blockR st.offsR st.startR ∧ st.l + st.blockR ≤ st.r
  one : ¬ (st.startL < st.offsL.size ∧ st.startR < st.offsR.size)

/-- The state after `pibBlocks` has chosen the block sizes: the blocks do not overlap (`sep`), and a block with pending
    offsets still has its scan.  `done` says that this is the last iteration (the gap was at most `2 * PS_BLOCK` on entry):
    then the blocks fill the gap exactly (`sepEq`); before that both have the full size (`big`), which is what makes the gap
    shrink by `PS_BLOCK` in every iteration. -/
structure Pre (p : α) (lo hi : Nat) (a : Array α) (st : PibState) (b : Array α) (done : Bool) : Prop where
  frame : Frame lo hi a b
  hsz : hi ≤ b.size
  hl : lo ≤ st.l
  hr : st.r ≤ hi
  ltL : ∀ i, lo ≤ i → i < st.l → lt (at' b i) p = true
  geR : ∀ i, st.r ≤ i → i < hi → lt (at' b i) p = false
  sL : st.startL ≤ st.offsL.size
  sR : st.startR ≤ st.offsR.size
  scanL : st.startL < st.offsL.size → ScanL lt p b st.l st.blockL st.offsL st.startL
  scanR : st.startR < st.offsR.size → ScanR lt p b st.r st.blockR st.offsR st.startR
  sep : st.l + st.blockL + st.blockR ≤ st.r
  sepEq : done = true → st.l + st.blockL + st.blockR = st.r
  big : done = false → st.blockL = PS_BLOCK ∧ st.blockR = PS_BLOCK

/-- `Pre` after the rescans, the state in the middle of an iteration: both blocks are scanned -/
structure Mid (p : α) (lo hi : Nat) (a : Array α) (st : PibState) (b : Array α) (done : Bool) : Prop where
  frame : Frame lo hi a b
  hsz : hi ≤ b.size
  hl : lo ≤ st.l
  hr : st.r ≤ hi
  ltL : ∀ i, lo ≤ i → i < st.l → lt (at' b i) p = true
  geR : ∀ i, st.r ≤ i → i < hi → lt (at' b i) p = false
  sL : st.startL ≤ st.offsL.size
  sR : st.startR ≤ st.offsR.size
  scanL : ScanL lt p b st.l st.blockL st.offsL st.startL
  scanR : ScanR lt p b st.r st.blockR st.offsR st.startR
  sep : st.l + st.blockL + st.blockR ≤ st.r
  sepEq : done = true → st.l + st.blockL + st.blockR = st.r
  big : done = false → st.blockL = PS_BLOCK ∧ st.blockR = PS_BLOCK

/-- after the last iteration: what is left of a block fills the gap exactly -/
def Fin (st : PibState) : Prop :=
  (st.startL < st.offsL.size → st.l + st.blockL = st.r) ∧ (st.startR < st.offsR.size → st.l + st.blockR = st.r) ∧
  (¬ st.startL < st.offsL.size → ¬ st.startR < st.offsR.size → st.l = st.r)

theorem ScanL.extend {p : α} {b : Array α} {lo l bl : Nat} {offs : Array Nat} {m : Nat} (h : ScanL lt p b l bl offs m)
    (hm : offs.size ≤ m) (ltL : ∀ i, lo ≤ i → i < l → lt (at' b i) p = true) :
    ∀ i, lo ≤ i → i < l + bl → lt (at' b i) p = true := by
  intro i h1 h2
  by_cases e : i < l
  · exact ltL i h1 e
  · have := (h.pend lt).exhausted hm (i - l) (by omega)
    rw [Nat.add_sub_cancel' (Nat.le_of_not_lt e)] at this
    exact eq_true_of_ne_false this

theorem ScanR.extend {p : α} {b : Array α} {hi r br : Nat} {offs : Array Nat} {m : Nat} (h : ScanR lt p b r br offs m)
    (hm : offs.size ≤ m) (geR : ∀ i, r ≤ i → i < hi → lt (at' b i) p = false) :
    ∀ i, r - br ≤ i → i < hi → lt (at' b i) p = false := by
  intro i h1 h2
  by_cases e : r ≤ i
  · exact geR i e h2
  · have := (h.pend lt).exhausted hm (r - 1 - i) (by omega)
    rw [rpos_rpos (Nat.lt_of_not_le e)] at this
    exact eq_false_of_ne_true this

theorem gap_shrinks {l r l' r' B : Nat} (sep : l + B + B ≤ r) (hl : l ≤ l') (hr : r' ≤ r) (h : l' = l + B ∨ r' = r - B) :
    r' - l' + B ≤ r - l := by omega

theorem Mid.finish {p : α} {lo hi : Nat} {a b : Array α} {st : PibState} {done : Bool} (m : Mid lt p lo hi a st b done)
    (hex : st.startL = st.offsL.size ∨ st.startR = st.offsR.size) :
    PibInv lt p lo hi a (pibAdvance st) b ∧ (done = true → Fin (pibAdvance st)) ∧
    (done = false → (pibAdvance st).blockL = PS_BLOCK ∧ (pibAdvance st).blockR = PS_BLOCK ∧
       (pibAdvance st).r - (pibAdvance st).l + PS_BLOCK ≤ st.r - st.l) := by
  obtain ⟨l, r, bL, bR, oL, mL, oR, mR⟩ := st
  obtain ⟨frame, hsz, hl, hr, ltL, geR, sL, sR, scanL, scanR, sep, sepEq, big⟩ := m
  dsimp only at hl hr ltL geR sL sR scanL scanR sep sepEq big hex
  have irr := Nat.lt_irrefl
  -- the bounds after an advance on the left, on the right, on both sides
  have hl' : lo ≤ l + bL := Nat.le_trans hl (Nat.le_add_right _ _)
  have hr' : r - bR ≤ hi := Nat.le_trans (Nat.sub_le _ _) hr
  have hlr : l + bL ≤ r - bR := Nat.le_sub_of_add_le sep
  have hlrEq : done = true → l + bL = r - bR := fun hd => Nat.eq_sub_of_add_eq (sepEq hd)
  by_cases eL : mL = oL.size
  · subst eL
    have ltL' := scanL.extend lt (Nat.le_refl _) ltL
    by_cases eR : mR = oR.size
    · -- both blocks are used up
      subst eR
      have geR' := scanR.extend lt (Nat.le_refl _) geR
      simp only [pibAdvance, beq_self_eq_true, if_true]
      refine ⟨{
          frame, hsz, hl := hl', hlr, hr := hr', ltL := ltL', geR := geR', sL := Nat.le_refl _, sR := Nat.le_refl _,
          pendL := fun h => absurd h (irr _), pendR := fun h => absurd h (irr _), one := fun h => irr _ h.1 },
        fun hd => ⟨fun h => absurd h (irr _), fun h => absurd h (irr _), fun _ _ => hlrEq hd⟩,
        fun hd => ⟨(big hd).1, (big hd).2, ?_⟩⟩
      obtain ⟨rfl, rfl⟩ := big hd
      exact gap_shrinks sep (Nat.le_add_right _ _) (Nat.sub_le _ _) (Or.inl rfl)
    · -- only the left block is used up
      have hpR : mR < oR.size := Nat.lt_of_le_of_ne sR eR
      simp only [pibAdvance, beq_self_eq_true, if_true, beq_iff_eq, eR, if_false]
      refine ⟨{
          frame, hsz, hl := hl', hlr := Nat.le_trans (Nat.le_add_right _ _) sep, hr, ltL := ltL', geR,
          sL := Nat.le_refl _, sR, pendL := fun h => absurd h (irr _), pendR := fun _ => ⟨scanR, sep⟩,
          one := fun h => irr _ h.1 },
        fun hd => ⟨fun h => absurd h (irr _), fun _ => sepEq hd, fun _ h => absurd hpR h⟩,
        fun hd => ⟨(big hd).1, (big hd).2, ?_⟩⟩
      obtain ⟨rfl, rfl⟩ := big hd
      exact gap_shrinks sep (Nat.le_add_right _ _) (Nat.le_refl _) (Or.inl rfl)
  · -- only the right block is used up
    have hpL : mL < oL.size := Nat.lt_of_le_of_ne sL eL
    have eR : mR = oR.size := hex.resolve_left eL
    subst eR
    have geR' := scanR.extend lt (Nat.le_refl _) geR
    simp only [pibAdvance, beq_self_eq_true, if_true, beq_iff_eq, eL, if_false]
    refine ⟨{
        frame, hsz, hl, hlr := Nat.le_trans (Nat.le_add_right _ _) hlr, hr := hr', ltL, geR := geR', sL,
        sR := Nat.le_refl _, pendL := fun _ => ⟨scanL, hlr⟩, pendR := fun h => absurd h (irr _),
        one := fun h => irr _ h.2 },
      fun hd => ⟨fun _ => hlrEq hd, fun h => absurd h (irr _), fun h _ => absurd hpL h⟩,
      fun hd => ⟨(big hd).1, (big hd).2, ?_⟩⟩
    obtain ⟨rfl, rfl⟩ := big hd
    exact gap_shrinks sep (Nat.le_refl _) (Nat.sub_le _ _) (Or.inr rfl)

/-! `pibStep` chooses the block sizes (`pibBlocks`), rescans an exhausted left block, rescans an exhausted right block, runs
the swap chain and advances (`pibAdvance`).  The three monadic phases get a name and a contract each: `pibRescanL`,
`pibRescanR`, `pibSwap` are the text of `pibStep` cut at its `let`s, and `pibStep_eq` puts them together again. -/

def pibRescanL (pivot : α) (st : PibState) : M a0 PibState :=
  if st.startL == st.offsL.size then do
    let offs ← pibScanL lt st.l st.blockL pivot
    pure { st with startL := 0, offsL := offs }
  else pure st

def pibRescanR (pivot : α) (st : PibState) : M a0 PibState :=
  if st.startR == st.offsR.size then do
    let offs ← pibScanR lt st.r st.blockR pivot
    pure { st with startR := 0, offsR := offs }
  else pure st

def pibSwap (st : PibState) : M a0 PibState :=
  let count := min (st.offsL.size - st.startL) (st.offsR.size - st.startR)
  if count > 0 then do
    pibChain st.l st.r st.offsL st.startL st.offsR st.startR count
    pure { st with startL := st.startL + count, startR := st.startR + count }
  else pure st

theorem ite_bind {m : Type → Type} [Monad m] {β γ : Type} (c : Prop) [Decidable c] (x y : m β) (f : β → m γ) :
    (if c then x else y) >>= f = if c then x >>= f else y >>= f := by
  split <;> rfl

/-- the `do` block of `pibStep` continues inside the branches of its conditionals; the monad laws bring it into this
    shape -/
theorem pibStep_eq (pivot : α) (st : PibState) : pibStep (a0 := a0) lt pivot st = (do
    let st2 ← pibRescanL lt pivot (pibBlocks st)
    let st3 ← pibRescanR lt pivot st2
    let st4 ← pibSwap st3
    return pibAdvance st4) := by
  simp only [pibStep, pibRescanL, pibRescanR, pibSwap, ite_bind, bind_assoc, pure_bind]

section
variable {p : α} {lo hi : Nat} {a b : Array α} {st : PibState} {done : Bool}

/-- `pibBlocks`: far apart, both blocks keep the full size; close together, a block with pending offsets keeps its size and
    the other one gets the rest of the gap, and without pending offsets the gap is halved -/
theorem Pre.of_inv (inv : PibInv lt p lo hi a st b)
    (hbl : st.blockL = PS_BLOCK) (hbr : st.blockR = PS_BLOCK) :
    Pre lt p lo hi a (pibBlocks st) b (decide (st.r - st.l ≤ 2 * PS_BLOCK)) := by
  obtain ⟨l, r, bL, bR, oL, mL, oR, mR⟩ := st
  obtain ⟨frame, hsz, hl, hlr, hr, ltL, geR, sL, sR, pendL, pendR, one⟩ := inv
  dsimp only at hl hlr hr ltL geR sL sR pendL pendR one hbl hbr
  subst hbl hbr
  by_cases hd : r - l ≤ 2 * PS_BLOCK
  · rw [decide_eq_true hd]
    by_cases hpL : mL < oL.size
    · have e : l + PS_BLOCK + (r - l - PS_BLOCK) = r := by have := (pendL hpL).2; omega
      simp only [pibBlocks, hd, hpL, if_true, true_or]
      exact {
        frame, hsz, hl, hr, ltL, geR, sL, sR, scanL := fun _ => (pendL hpL).1, scanR := fun h => absurd ⟨hpL, h⟩ one,
        sep := Nat.le_of_eq e, sepEq := fun _ => e, big := Bool.noConfusion }
    · by_cases hpR : mR < oR.size
      · have e : l + (r - l - PS_BLOCK) + PS_BLOCK = r := by have := (pendR hpR).2; omega
        simp only [pibBlocks, hd, hpL, hpR, if_true, if_false, false_or]
        exact {
          frame, hsz, hl, hr, ltL, geR, sL, sR, scanL := fun h => absurd h hpL, scanR := fun _ => (pendR hpR).1,
          sep := Nat.le_of_eq e, sepEq := fun _ => e, big := Bool.noConfusion }
      · have e : l + (r - l) / 2 + (r - l - (r - l) / 2) = r := by omega
        simp only [pibBlocks, hd, hpL, hpR, if_true, if_false, or_false]
        exact {
          frame, hsz, hl, hr, ltL, geR, sL, sR, scanL := fun h => absurd h hpL, scanR := fun h => absurd h hpR,
          sep := Nat.le_of_eq e, sepEq := fun _ => e, big := Bool.noConfusion }
  · rw [decide_eq_false hd]
    have e : l + PS_BLOCK + PS_BLOCK ≤ r := by omega
    simp only [pibBlocks, hd, if_false]
    exact {
      frame, hsz, hl, hr, ltL, geR, sL, sR, scanL := fun h => (pendL h).1, scanR := fun h => (pendR h).1,
      sep := e, sepEq := Bool.noConfusion, big := fun _ => ⟨rfl, rfl⟩ }

theorem Pre.mid (h : Pre lt p lo hi a st b done)
    {oL oR : Array Nat} {sL sR : Nat} (hsL : sL ≤ oL.size) (scL : ScanL lt p b st.l st.blockL oL sL)
    (hsR : sR ≤ oR.size) (scR : ScanR lt p b st.r st.blockR oR sR) :
    Mid lt p lo hi a { st with offsL := oL, startL := sL, offsR := oR, startR := sR } b done :=
  { h with sL := hsL, sR := hsR, scanL := scL, scanR := scR }

theorem pibRescanL_spec (p : α) (st : PibState) (b : Array α) :
   ⦃fun s => ⌜s.val = b ∧ st.startL ≤ st.offsL.size ∧
      (st.startL < st.offsL.size → ScanL lt p b st.l st.blockL st.offsL st.startL)⌝⦄
   (pibRescanL (a0 := a0) lt p st)
   ⦃⇓ st' s => ⌜s.val = b ∧ ∃ offs start, st' = { st with offsL := offs, startL := start } ∧ start ≤ offs.size ∧
       ScanL lt p b st.l st.blockL offs start⌝⦄ := by
  have hSL := fun l block p b => pibScanL_spec (a0 := a0) lt l block p b
  mvcgen -trivial -leave [pibRescanL, hSL]
  case vc1 =>
    rename_i hc s0 hpre offs s hscan
    obtain ⟨rfl, _, _⟩ := hpre
    exact SPred.pure_intro ⟨hscan.1, offs, 0, rfl, Nat.zero_le _, hscan.2⟩
  case vc2 =>
    rename_i hc s hpre
    exact SPred.pure_intro
      ⟨hpre.1, st.offsL, st.startL, rfl, hpre.2.1, hpre.2.2 (Nat.lt_of_le_of_ne hpre.2.1 fun e => hc (beq_iff_eq.2 e))⟩

theorem pibRescanR_spec (p : α) (st : PibState) (b : Array α) :
   ⦃fun s => ⌜s.val = b ∧ st.startR ≤ st.offsR.size ∧
      (st.startR < st.offsR.size → ScanR lt p b st.r st.blockR st.offsR st.startR)⌝⦄
   (pibRescanR (a0 := a0) lt p st)
   ⦃⇓ st' s => ⌜s.val = b ∧ ∃ offs start, st' = { st with offsR := offs, startR := start } ∧ start ≤ offs.size ∧
       ScanR lt p b st.r st.blockR offs start⌝⦄ := by
  have hSR := fun r block p b => pibScanR_spec (a0 := a0) lt r block p b
  mvcgen -trivial -leave [pibRescanR, hSR]
  case vc1 =>
    rename_i hc s0 hpre offs s hscan
    obtain ⟨rfl, _, _⟩ := hpre
    exact SPred.pure_intro ⟨hscan.1, offs, 0, rfl, Nat.zero_le _, hscan.2⟩
  case vc2 =>
    rename_i hc s hpre
    exact SPred.pure_intro
      ⟨hpre.1, st.offsR, st.startR, rfl, hpre.2.1, hpre.2.2 (Nat.lt_of_le_of_ne hpre.2.1 fun e => hc (beq_iff_eq.2 e))⟩

theorem Mid.chain {b' : Array α} (m : Mid lt p lo hi a st b done)
    (count : Nat) (hcL : st.startL + count ≤ st.offsL.size) (hcR : st.startR + count ≤ st.offsR.size)
    (f : Frame st.l st.r b b') (hL : ScanL lt p b' st.l st.blockL st.offsL (st.startL + count))
    (hR : ScanR lt p b' st.r st.blockR st.offsR (st.startR + count)) :
    Mid lt p lo hi a { st with startL := st.startL + count, startR := st.startR + count } b' done := by
  exact { m with
    frame := m.frame.trans (f.mono m.hl m.hr)
    hsz := by rw [f.size]; exact m.hsz
    ltL := fun i h1 h2 => by rw [f.out i (Or.inl h2)]; exact m.ltL i h1 h2
    geR := fun i h1 h2 => by rw [f.out i (Or.inr h1)]; exact m.geR i h1 h2
    sL := hcL, sR := hcR, scanL := hL, scanR := hR }
end

theorem min_pending {a b sa sb c : Nat} (hc : c = min (a - sa) (b - sb)) (h1 : sa ≤ a) (h2 : sb ≤ b) :
    sa + c ≤ a ∧ sb + c ≤ b ∧ (sa + c = a ∨ sb + c = b) := by
  subst hc
  rcases Nat.le_total (a - sa) (b - sb) with h | h
  · rw [Nat.min_eq_left h]
    exact ⟨Nat.le_of_eq (Nat.add_sub_cancel' h1), Nat.add_le_of_le_sub' h2 h, Or.inl (Nat.add_sub_cancel' h1)⟩
  · rw [Nat.min_eq_right h]
    exact ⟨Nat.add_le_of_le_sub' h1 h, Nat.le_of_eq (Nat.add_sub_cancel' h2), Or.inr (Nat.add_sub_cancel' h2)⟩

/-- as many pairs are exchanged as both blocks have pending offsets: one of the blocks is used up afterwards -/
theorem pibSwap_spec (p : α) (lo hi : Nat) (a : Array α) (st : PibState) (b : Array α) (done : Bool) :
   ⦃fun s => ⌜s.val = b ∧ Mid lt p lo hi a st b done⌝⦄
   (pibSwap (a0 := a0) st)
   ⦃⇓ st' s => ⌜Mid lt p lo hi a st' s.val done ∧ st'.l = st.l ∧ st'.r = st.r ∧
       (st'.startL = st'.offsL.size ∨ st'.startR = st'.offsR.size)⌝⦄ := by
  have hCH := fun l r oL sL oR sR count b => pibChain_spec (a0 := a0) lt p l r st.blockL st.blockR oL sL oR sR count b
  mvcgen -trivial -leave [pibSwap, hCH]
  case vc1 =>
    rename_i count hc s hpre
    obtain ⟨rfl, m⟩ := hpre
    obtain ⟨h1, h2, _⟩ := min_pending (c := count) rfl m.sL m.sR
    exact SPred.pure_intro ⟨rfl, m.scanL, m.scanR, hc, h1, h2, m.sep, Nat.le_trans m.hr m.hsz⟩
  case vc2 =>
    rename_i count hc s0 hpre u s hpost
    obtain ⟨rfl, m⟩ := hpre
    obtain ⟨h1, h2, h3⟩ := min_pending (c := count) rfl m.sL m.sR
    exact SPred.pure_intro ⟨m.chain lt count h1 h2 hpost.1 hpost.2.1 hpost.2.2, rfl, rfl, h3⟩
  case vc3 => -- `count = 0`: a block had no pending offsets
    rename_i count hc s hpre
    obtain ⟨rfl, m⟩ := hpre
    have h := (min_pending (c := count) rfl m.sL m.sR).2.2
    rw [Nat.eq_zero_of_not_pos hc] at h
    exact SPred.pure_intro ⟨m, rfl, rfl, h⟩

/-- the invariant again; after the last iteration `Fin`; after any other one full blocks and a gap smaller by `PS_BLOCK` -/
def StepPost (p : α) (lo hi : Nat) (a : Array α) (st : PibState) (st' : PibState) (b' : Array α) : Prop :=
  PibInv lt p lo hi a st' b' ∧ (st.r - st.l ≤ 2 * PS_BLOCK → Fin st') ∧
  (¬ st.r - st.l ≤ 2 * PS_BLOCK →
    st'.blockL = PS_BLOCK ∧ st'.blockR = PS_BLOCK ∧ st'.r - st'.l + PS_BLOCK ≤ st.r - st.l)

theorem pibBlocks_l (st : PibState) : (pibBlocks st).l = st.l := by
  simp only [pibBlocks, apply_ite PibState.l, ite_self]

theorem pibBlocks_r (st : PibState) : (pibBlocks st).r = st.r := by
  simp only [pibBlocks, apply_ite PibState.r, ite_self]

theorem pibStep_spec (p : α) (lo hi : Nat) (a : Array α) (st : PibState) (b : Array α) :
   ⦃fun s => ⌜s.val = b ∧ PibInv lt p lo hi a st b ∧ st.blockL = PS_BLOCK ∧ st.blockR = PS_BLOCK⌝⦄
   (pibStep (a0 := a0) lt p st)
   ⦃⇓ st' s => ⌜StepPost lt p lo hi a st st' s.val⌝⦄ := by
  have hL := fun st b => pibRescanL_spec (a0 := a0) lt p st b
  have hR := fun st b => pibRescanR_spec (a0 := a0) lt p st b
  have hS := fun st' b => pibSwap_spec (a0 := a0) lt p lo hi a st' b (decide (st.r - st.l ≤ 2 * PS_BLOCK))
  rw [pibStep_eq]
  mvcgen -trivial -leave [hL, hR, hS]
  case vc1 => -- the precondition of `pibRescanL`
    rename_i s hpre
    obtain ⟨rfl, inv, hbl, hbr⟩ := hpre
    have h := Pre.of_inv lt inv hbl hbr
    exact SPred.pure_intro ⟨rfl, h.sL, h.scanL⟩
  case vc2 => -- of `pibRescanR`
    rename_i s0 hpre st2 s hpostL
    obtain ⟨rfl, inv, hbl, hbr⟩ := hpre
    obtain ⟨e, oL, sL, rfl, hsL, scL⟩ := hpostL
    have h := Pre.of_inv lt inv hbl hbr
    exact SPred.pure_intro ⟨rfl, h.sR, e ▸ h.scanR⟩
  case vc3 => -- of `pibSwap`
    rename_i s0 hpre st2 s1 hpostL st3 s hpostR
    obtain ⟨rfl, inv, hbl, hbr⟩ := hpre
    obtain ⟨e1, oL, sL, rfl, hsL, scL⟩ := hpostL
    obtain ⟨e2, oR, sR, rfl, hsR, scR⟩ := hpostR
    rw [e1] at e2 scR
    refine SPred.pure_intro ⟨rfl, ?_⟩
    rw [e2]
    exact (Pre.of_inv lt inv hbl hbr).mid lt hsL scL hsR scR
  case vc4 => -- after `pibSwap`, the advance
    rename_i s0 hpre st2 s1 hpostL st3 s2 hpostR st4 s hpostS
    obtain ⟨_, oL, sL, rfl, _⟩ := hpostL
    obtain ⟨_, oR, sR, rfl, _⟩ := hpostR
    obtain ⟨m, el, er, hex⟩ := hpostS
    obtain ⟨i, f, g⟩ := m.finish lt hex
    rw [el.trans (pibBlocks_l st), er.trans (pibBlocks_r st)] at g
    exact SPred.pure_intro ⟨i, fun hd => f (decide_eq_true hd), fun hd => g (decide_eq_false hd)⟩
end NucleoVerif.PS
