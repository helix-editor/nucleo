import NucleoVerif.Lemmas.DP
/-! The candidate scans of `substring_match_*`: the one-character shape `scan1`, the general shape `scanS` it is an
instance of, and the invariant `ScanInv` that relates a scan state to the candidates seen so far. -/
namespace NucleoVerif
open Gen

/-- the common shape of the two one-character scans (`substring_match_1_ascii` / `_non_ascii`) -/
def scan1 (cfg : Cfg) (m : Nat → Bool) (cl : Nat → CharClass) : Best → CharClass → Nat → List Nat → Best
  | b, _, _, [] => b
  | b, prev, pos, x :: xs =>
    scan1 cfg m cl (if m x then b.offer cfg pos (bonusFor cfg prev (cl x)) true else b) (cl x) (pos + 1) xs

/-- the candidates of a one-character scan: (position, 16 + 2·bonus) of every matching character -/
def cands1 (cfg : Cfg) (m : Nat → Bool) (cl : Nat → CharClass) : CharClass → Nat → List Nat → List (Nat × Nat)
  | _, _, [] => []
  | prev, pos, x :: xs =>
    (if m x then [(pos, bonusFor cfg prev (cl x) * BONUS_FIRST_CHAR_MULTIPLIER + SCORE_MATCH)] else [])
      ++ cands1 cfg m cl (cl x) (pos + 1) xs

theorem cands1_pos (cfg : Cfg) (m : Nat → Bool) (cl : Nat → CharClass) :
    ∀ (xs : List Nat) (prev : CharClass) (pos : Nat), ∀ ps ∈ cands1 cfg m cl prev pos xs,
      pos ≤ ps.1 ∧ ∃ p c, ps.2 = bonusFor cfg p c * BONUS_FIRST_CHAR_MULTIPLIER + SCORE_MATCH := by
  intro xs
  induction xs with
  | nil => intro _ _ ps h; simp [cands1] at h
  | cons x xs ih =>
    intro prev pos ps h
    simp only [cands1, List.mem_append] at h
    rcases h with h | h
    · split at h
      · simp only [List.mem_singleton] at h; subst h; exact ⟨Nat.le_refl _, prev, cl x, rfl⟩
      · simp at h
    · have := ih (cl x) (pos + 1) ps h
      exact ⟨by omega, this.2⟩

theorem substring1Ascii_go_eq (cfg : Cfg) (c : Nat) :
    ∀ (xs : List Nat) (b : Best) (prev : CharClass) (pos : Nat),
      substring1Ascii.go cfg c b prev pos xs = scan1 cfg (asciiEq cfg.ignoreCase c) (charClassAscii cfg) b prev pos xs := by
  intro xs
  induction xs with
  | nil => intro _ _ _; rfl
  | cons x xs ih => intro b prev pos; simp only [substring1Ascii.go, scan1]; exact ih _ _ _

theorem Best.offer_cases (cfg : Cfg) (b : Best) (pos bonus : Nat) (ok : Bool) :
    (b.offer cfg pos bonus ok = b ∧
      (b.stop = true ∨ ¬ (bonus * BONUS_FIRST_CHAR_MULTIPLIER + SCORE_MATCH > b.score ∧ ok = true))) ∨
    ((bonus * BONUS_FIRST_CHAR_MULTIPLIER + SCORE_MATCH > b.score ∧ ok = true) ∧
      b.offer cfg pos bonus ok = ⟨bonus * BONUS_FIRST_CHAR_MULTIPLIER + SCORE_MATCH, pos, decide (bonus ≥ maxBonus cfg)⟩) := by
  unfold Best.offer
  split
  · exact Or.inl ⟨rfl, Or.inl ‹_›⟩
  · split
    · exact Or.inr ⟨‹_›, rfl⟩
    · exact Or.inl ⟨rfl, Or.inr ‹_›⟩

theorem Best.offer_stopped (cfg : Cfg) (b : Best) (pos bonus : Nat) (ok : Bool) (h : b.stop = true) :
    b.offer cfg pos bonus ok = b := by
  rw [Best.offer, if_pos h]

theorem Best.offer_pos (cfg : Cfg) (b : Best) (pos bonus : Nat) (h : b.stop = true → b.score ≠ 0) :
    (b.offer cfg pos bonus true).score ≠ 0 := by
  rcases Best.offer_cases cfg b pos bonus true with ⟨e, hs | hng⟩ | ⟨_, e⟩
  · rw [e]; exact h hs
  · rw [e]; simp only [SCORE_MATCH, and_true] at hng; omega
  · rw [e]; exact Nat.succ_ne_zero _

theorem Best.offer_stop_pos (cfg : Cfg) (b : Best) (pos bonus : Nat) (ok : Bool) (h : b.stop = true → b.score ≠ 0) :
    (b.offer cfg pos bonus ok).stop = true → (b.offer cfg pos bonus ok).score ≠ 0 := by
  rcases Best.offer_cases cfg b pos bonus ok with ⟨e, _⟩ | ⟨_, e⟩
  · rw [e]; exact h
  · rw [e]; exact fun _ => Nat.succ_ne_zero _

theorem scan1_pos (cfg : Cfg) (m : Nat → Bool) (cl : Nat → CharClass) :
    ∀ (xs : List Nat) (b : Best) (prev : CharClass) (pos : Nat), (b.stop = true → b.score ≠ 0) →
      ((scan1 cfg m cl b prev pos xs).score ≠ 0 ↔ (b.score ≠ 0 ∨ ∃ x ∈ xs, m x = true)) := by
  intro xs
  induction xs with
  | nil => intro b _ _ _; simp [scan1]
  | cons x xs ih =>
    intro b prev pos hb
    simp only [scan1, List.mem_cons, exists_eq_or_imp]
    by_cases hm : m x = true
    · rw [if_pos hm, ih _ _ _ (Best.offer_stop_pos cfg b pos _ true hb)]
      exact iff_of_true (Or.inl (Best.offer_pos cfg b pos _ hb)) (Or.inr (Or.inl hm))
    · rw [if_neg hm, ih _ _ _ hb, or_iff_right hm]

theorem bonus_le_max (cfg : Cfg) (hb : 8 ≤ maxBonus cfg) (prev cls : CharClass) :
    bonusFor cfg prev cls ≤ maxBonus cfg := by
  rw [DP.bonusFor_eq_spec]
  exact DP.specBonus_le_of (Nat.le_max_left _ _) (Nat.le_max_right _ _) hb prev cls

/-- the general candidate scan shared by all `substring_match_*` loops: at every position an acceptance test that may
    look at the position and the rest of the haystack decides whether the position is offered -/
def scanS (cfg : Cfg) (acc : Nat → List Nat → Bool) (cl : Nat → CharClass) : Best → CharClass → Nat → List Nat → Best
  | b, _, _, [] => b
  | b, prev, pos, x :: xs =>
    scanS cfg acc cl (if acc pos (x :: xs) then b.offer cfg pos (bonusFor cfg prev (cl x)) true else b) (cl x) (pos + 1) xs

/-- the candidates of `scanS`: (position, 16 + 2·bonus) of every accepted position -/
def candsS (cfg : Cfg) (acc : Nat → List Nat → Bool) (cl : Nat → CharClass) : CharClass → Nat → List Nat → List (Nat × Nat)
  | _, _, [] => []
  | prev, pos, x :: xs =>
    (if acc pos (x :: xs) then [(pos, bonusFor cfg prev (cl x) * BONUS_FIRST_CHAR_MULTIPLIER + SCORE_MATCH)] else [])
      ++ candsS cfg acc cl (cl x) (pos + 1) xs

theorem scan1_eq_scanS (cfg : Cfg) (m : Nat → Bool) (cl : Nat → CharClass) :
    ∀ (xs : List Nat) (b : Best) (prev : CharClass) (pos : Nat),
      scan1 cfg m cl b prev pos xs = scanS cfg (fun _ s => m (s.headD 0)) cl b prev pos xs := by
  intro xs
  induction xs with
  | nil => intro _ _ _; rfl
  | cons x xs ih => intro b prev pos; simp only [scan1, scanS, List.headD_cons]; exact ih _ _ _

theorem cands1_eq_candsS (cfg : Cfg) (m : Nat → Bool) (cl : Nat → CharClass) :
    ∀ (xs : List Nat) (prev : CharClass) (pos : Nat),
      cands1 cfg m cl prev pos xs = candsS cfg (fun _ s => m (s.headD 0)) cl prev pos xs := by
  intro xs
  induction xs with
  | nil => intro _ _; rfl
  | cons x xs ih => intro prev pos; simp [cands1, candsS, ih]

/-- what a scan state knows about the candidates `S` seen so far -/
structure ScanInv (cfg : Cfg) (b : Best) (S : List (Nat × Nat)) : Prop where
  upper : ∀ ps ∈ S, ps.2 ≤ b.score
  attained : b.score = 0 ∨ ((b.pos, b.score) ∈ S ∧ ∀ ps ∈ S, ps.2 = b.score → b.pos ≤ ps.1)
  stopOK : b.stop = true → ∀ p c, bonusFor cfg p c * BONUS_FIRST_CHAR_MULTIPLIER + SCORE_MATCH ≤ b.score

theorem ScanInv.offer {cfg : Cfg} {b : Best} {S : List (Nat × Nat)} (hb : 8 ≤ maxBonus cfg) (h : ScanInv cfg b S)
    (pos : Nat) (hlt : ∀ ps ∈ S, ps.1 < pos) (prev cls : CharClass) :
    ScanInv cfg (b.offer cfg pos (bonusFor cfg prev cls) true)
      (S ++ [(pos, bonusFor cfg prev cls * BONUS_FIRST_CHAR_MULTIPLIER + SCORE_MATCH)]) := by
  have mem : ∀ {ps}, ps ∈ S ++ [(pos, bonusFor cfg prev cls * BONUS_FIRST_CHAR_MULTIPLIER + SCORE_MATCH)] →
      ps ∈ S ∨ ps = (pos, bonusFor cfg prev cls * BONUS_FIRST_CHAR_MULTIPLIER + SCORE_MATCH) := fun hps =>
    (List.mem_append.mp hps).imp_right List.mem_singleton.mp
  rcases Best.offer_cases cfg b pos (bonusFor cfg prev cls) true with ⟨e, why⟩ | ⟨⟨hgt, _⟩, e⟩
  · -- not replaced: stopped at the largest possible score, or the candidate is not better
    have hle : bonusFor cfg prev cls * BONUS_FIRST_CHAR_MULTIPLIER + SCORE_MATCH ≤ b.score :=
      why.elim (fun hs => h.stopOK hs prev cls) (fun hng => Nat.le_of_not_lt fun hlt' => hng ⟨hlt', rfl⟩)
    rw [e]
    refine ⟨fun ps hps => ?_, h.attained.imp_right fun ⟨a1, a2⟩ => ⟨List.mem_append_left _ a1, fun ps hps heq => ?_⟩,
      h.stopOK⟩
    · rcases mem hps with hps | rfl
      · exact h.upper ps hps
      · exact hle
    · rcases mem hps with hps | rfl
      · exact a2 ps hps heq
      · exact Nat.le_of_lt (hlt _ a1)
  · -- replaced: every earlier candidate scores strictly less
    rw [e]
    refine ⟨fun ps hps => ?_, Or.inr ⟨List.mem_append_right _ (List.mem_singleton.mpr rfl), fun ps hps heq => ?_⟩,
      fun hst p c => ?_⟩
    · rcases mem hps with hps | rfl
      · exact Nat.le_of_lt (Nat.lt_of_le_of_lt (h.upper ps hps) hgt)
      · exact Nat.le_refl _
    · rcases mem hps with hps | rfl
      · exact absurd (h.upper ps hps) (Nat.not_le_of_lt (heq ▸ hgt))
      · exact Nat.le_refl _
    · have h1 := bonus_le_max cfg hb p c
      have h2 : maxBonus cfg ≤ bonusFor cfg prev cls := of_decide_eq_true hst
      exact Nat.add_le_add_right (Nat.mul_le_mul_right _ (Nat.le_trans h1 h2)) _

theorem scanS_inv (cfg : Cfg) (hb : 8 ≤ maxBonus cfg) (acc : Nat → List Nat → Bool) (cl : Nat → CharClass) :
    ∀ (xs : List Nat) (b : Best) (prev : CharClass) (pos : Nat) (S : List (Nat × Nat)),
      ScanInv cfg b S → (∀ ps ∈ S, ps.1 < pos) →
      ScanInv cfg (scanS cfg acc cl b prev pos xs) (S ++ candsS cfg acc cl prev pos xs) := by
  intro xs
  induction xs with
  | nil => intro b prev pos S h _; rw [scanS, candsS, List.append_nil]; exact h
  | cons x xs ih =>
    intro b prev pos S h hlt
    rw [scanS, candsS, ← List.append_assoc]
    by_cases hm : acc pos (x :: xs) = true
    · rw [if_pos hm, if_pos hm]
      refine ih _ _ _ _ (h.offer hb pos hlt prev (cl x)) fun ps hps => ?_
      rcases List.mem_append.mp hps with hps | hps
      · exact Nat.lt_succ_of_lt (hlt ps hps)
      · rw [List.mem_singleton.mp hps]; exact Nat.lt_succ_self _
    · rw [if_neg hm, if_neg hm, List.append_nil]
      exact ih _ _ _ _ h fun ps hps => Nat.lt_succ_of_lt (hlt ps hps)

end NucleoVerif
