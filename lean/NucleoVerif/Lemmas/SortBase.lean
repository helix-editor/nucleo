import NucleoVerif.Model.ParSort
import Std.Tactic.Do
/-! Vocabulary for the sortedness proof of the pattern-defeating quicksort model (C18). -/
open Std.Do
namespace NucleoVerif.PS
variable {α : Type} [Inhabited α]
-- `[Inhabited α]` serves `at'`; the lemmas about `swapIfInBounds`, `SWO` and `triple_iff` do not need it
set_option linter.unusedSectionVars false
-- `mvcgen` announces at every call that it is experimental
set_option mvcgen.warning false

/-- element `i` as `rd` reads it -/
abbrev at' (a : Array α) (i : Nat) : α := a.getD i default

theorem at_swap (a : Array α) (i j k : Nat) (hi : i < a.size) (hj : j < a.size) :
    at' (a.swapIfInBounds i j) k = if k = i then at' a j else if k = j then at' a i else at' a k := by
  unfold at'
  simp only [Array.getD_eq_getD_getElem?]
  have e : a.swapIfInBounds i j = a.swap i j hi hj := by simp [Array.swapIfInBounds_def, hi, hj]
  rw [e, Array.getElem?_swap]
  by_cases h1 : k = i
  · subst h1
    by_cases h2 : j = k
    · subst h2; simp [hi]
    · simp [h2, hj]
  · by_cases h2 : k = j
    · subst h2
      simp [hi]
      intro h
      exact absurd h h1
    · have h3 : ¬ j = k := fun h => h2 h.symm
      have h4 : ¬ i = k := fun h => h1 h.symm
      simp [h1, h2, h3, h4]

theorem at_swap_left (a : Array α) (i j : Nat) (hi : i < a.size) (hj : j < a.size) :
    at' (a.swapIfInBounds i j) i = at' a j := by
  rw [at_swap a i j i hi hj, if_pos rfl]

theorem at_swap_right (a : Array α) (i j : Nat) (hi : i < a.size) (hj : j < a.size) :
    at' (a.swapIfInBounds i j) j = at' a i := by
  rw [at_swap a i j j hi hj, if_pos rfl]
  by_cases e : j = i
  · rw [if_pos e, e]
  · rw [if_neg e]

theorem at_swap_ne (a : Array α) {i j k : Nat} (hi : i < a.size) (hj : j < a.size) (h1 : k ≠ i) (h2 : k ≠ j) :
    at' (a.swapIfInBounds i j) k = at' a k := by
  rw [at_swap a i j k hi hj, if_neg h1, if_neg h2]

theorem at_swap_add_ne (a : Array α) {lo i j k : Nat} (hi : lo + i < a.size) (hj : lo + j < a.size)
    (h1 : k ≠ i) (h2 : k ≠ j) :
    at' (a.swapIfInBounds (lo + i) (lo + j)) (lo + k) = at' a (lo + k) :=
  at_swap_ne a hi hj (fun e => h1 (Nat.add_left_cancel e)) (fun e => h2 (Nat.add_left_cancel e))

theorem size_swap (a : Array α) (i j : Nat) : (a.swapIfInBounds i j).size = a.size := by simp

theorem swap_oob (a : Array α) (i j : Nat) (h : ¬ (i < a.size ∧ j < a.size)) : a.swapIfInBounds i j = a := by
  unfold Array.swapIfInBounds
  split
  · split
    · exact absurd ⟨‹_›, ‹_›⟩ h
    · rfl
  · rfl

theorem swapIfInBounds_comm (a : Array α) (i j : Nat) : a.swapIfInBounds i j = a.swapIfInBounds j i := by
  by_cases hb : i < a.size ∧ j < a.size
  · simp only [Array.swapIfInBounds_def, hb.1, hb.2, dite_true]
    exact Array.swap_comm _ _
  · rw [swap_oob a i j hb, swap_oob a j i fun h => hb ⟨h.2, h.1⟩]

/-- the comparison is a strict weak order; `lt y x = false` reads "x ≤ y" -/
structure SWO (lt : α → α → Bool) : Prop where
  asym : ∀ x y, lt x y = true → lt y x = false
  le_trans : ∀ x y z, lt y x = false → lt z y = false → lt z x = false

namespace SWO
variable {lt : α → α → Bool} (h : SWO lt)
include h
theorem irrefl (x : α) : lt x x = false := by
  cases hx : lt x x with
  | false => rfl
  | true => have := h.asym x x hx; rw [hx] at this; cases this
theorem lt_of_lt_of_le (x y z : α) (h1 : lt x y = true) (h2 : lt z y = false) : lt x z = true := by
  cases hx : lt x z with
  | true => rfl
  | false =>
    -- y ≤ z ≤ x  ⇒ y ≤ x, contradiction
    have := h.le_trans y z x h2 hx
    rw [h1] at this; cases this
theorem lt_of_le_of_lt (x y z : α) (h1 : lt y x = false) (h2 : lt y z = true) : lt x z = true := by
  cases hx : lt x z with
  | true => rfl
  | false =>
    -- z ≤ x ≤ y ⇒ z ≤ y
    have := h.le_trans z x y hx h1
    rw [h2] at this; cases this
theorem le_of_lt (x y : α) (h1 : lt x y = true) : lt y x = false := h.asym x y h1
end SWO

theorem eq_true_of_not_bnot {c : Bool} (h : ¬ (!c) = true) : c = true := by
  cases c
  · exact absurd rfl h
  · rfl

/-- `a[lo..hi)` is in non-decreasing order: no later element is smaller than an earlier one -/
def Sorted (lt : α → α → Bool) (lo hi : Nat) (a : Array α) : Prop :=
  ∀ i j, lo ≤ i → i < j → j < hi → lt (at' a j) (at' a i) = false

def SegAll (lo hi : Nat) (P : α → Prop) (a : Array α) : Prop := ∀ i, lo ≤ i → i < hi → P (at' a i)

/-- `b` arises from `a` by rearranging `a[lo..hi)` only: same size, same elements outside, and every property that
    held for all elements of the segment still does.  `all` stands in for "the segment is permuted": it is what carries
    "all elements are `≥ x`" across a call (`PopInv.next`, `RecPre.left`) without multisets. -/
structure Frame (lo hi : Nat) (a b : Array α) : Prop where
  size : b.size = a.size
  out : ∀ i, (i < lo ∨ hi ≤ i) → at' b i = at' a i
  all : ∀ P : α → Prop, SegAll lo hi P a → SegAll lo hi P b

theorem Frame.refl (lo hi : Nat) (a : Array α) : Frame lo hi a a := ⟨rfl, fun _ _ => rfl, fun _ h => h⟩

theorem Frame.trans {lo hi : Nat} {a b c : Array α} (h1 : Frame lo hi a b) (h2 : Frame lo hi b c) : Frame lo hi a c :=
  ⟨h2.size.trans h1.size, fun i hi' => (h2.out i hi').trans (h1.out i hi'), fun P hP => h2.all P (h1.all P hP)⟩

theorem Frame.mono {lo hi lo' hi' : Nat} {a b : Array α} (h : Frame lo hi a b) (hl : lo' ≤ lo) (hh : hi ≤ hi') :
    Frame lo' hi' a b := by
  refine ⟨h.size, fun i hi2 => h.out i (by omega), fun P hP i h1 h2 => ?_⟩
  by_cases hin : lo ≤ i ∧ i < hi
  · exact h.all P (fun k hk1 hk2 => hP k (by omega) (by omega)) i hin.1 hin.2
  · rw [h.out i (by omega)]; exact hP i h1 h2

theorem Frame.swap (lo hi : Nat) (a : Array α) (i j : Nat) (hi1 : lo ≤ i) (hi2 : i < hi) (hj1 : lo ≤ j) (hj2 : j < hi) :
    Frame lo hi a (a.swapIfInBounds i j) := by
  by_cases hb : i < a.size ∧ j < a.size
  · refine ⟨size_swap a i j, fun k hk => at_swap_ne a hb.1 hb.2 (by omega) (by omega), fun P hP k hk1 hk2 => ?_⟩
    by_cases e1 : k = i
    · rw [e1, at_swap_left a i j hb.1 hb.2]; exact hP j hj1 hj2
    · by_cases e2 : k = j
      · rw [e2, at_swap_right a i j hb.1 hb.2]; exact hP i hi1 hi2
      · rw [at_swap_ne a hb.1 hb.2 e1 e2]; exact hP k hk1 hk2
  · rw [swap_oob a i j hb]; exact Frame.refl _ _ _

theorem SegAll.mono {l h l' h' : Nat} {a : Array α} {P : α → Prop} (hP : SegAll l h P a) (h1 : l ≤ l') (h2 : h' ≤ h) :
    SegAll l' h' P a :=
  fun i hi1 hi2 => hP i (Nat.le_trans h1 hi1) (Nat.lt_of_lt_of_le hi2 h2)

theorem SegAll.of_offsets {lo m n : Nat} {P : α → Prop} {a : Array α} (h : ∀ x, m ≤ x → x < n → P (at' a (lo + x))) :
    SegAll (lo + m) (lo + n) P a := by
  intro i h1 h2
  obtain ⟨x, rfl⟩ := Nat.exists_eq_add_of_le (Nat.le_trans (Nat.le_add_right _ _) h1)
  exact h x (Nat.le_of_add_le_add_left h1) (Nat.lt_of_add_lt_add_left h2)

theorem SegAll.offsets {lo n : Nat} {P : α → Prop} {a : Array α} (h : SegAll lo (lo + n) P a) (x : Nat) (hx : x < n) :
    P (at' a (lo + x)) :=
  h (lo + x) (Nat.le_add_right _ _) (Nat.add_lt_add_left hx _)

theorem Frame.segAll_disjoint {l h l2 h2 : Nat} {a b : Array α} (f : Frame l2 h2 a b) (hd : h ≤ l2 ∨ h2 ≤ l)
    (P : α → Prop) (hP : SegAll l h P a) : SegAll l h P b := by
  intro i h1 h3
  rw [f.out i (by omega)]; exact hP i h1 h3

theorem Sorted.mono {lt : α → α → Bool} {lo hi lo' hi' : Nat} {a : Array α} (h : Sorted lt lo hi a)
    (hl : lo ≤ lo') (hh : hi' ≤ hi) : Sorted lt lo' hi' a := fun i j h1 h2 h3 => h i j (by omega) h2 (by omega)

theorem Sorted.frame_disjoint {lt : α → α → Bool} {lo hi l2 h2 : Nat} {a b : Array α} (h : Sorted lt lo hi a)
    (f : Frame l2 h2 a b) (hd : hi ≤ l2 ∨ h2 ≤ lo) : Sorted lt lo hi b := by
  intro i j h1 h3 h4
  rw [f.out i (by omega), f.out j (by omega)]
  exact h i j h1 h3 h4

theorem range_split {a b : Nat} {pref suff : List Nat} {cur : Nat} (h : [a:b].toList = pref ++ cur :: suff) :
    cur = a + pref.length ∧ pref.length + 1 + suff.length = b - a := by
  have hl := congrArg List.length h
  rw [List.length_range'] at hl
  simp only [List.length_append, List.length_cons, Nat.add_sub_cancel, Nat.div_one] at hl
  have hl2 : pref.length + 1 + suff.length = b - a := by omega
  refine ⟨?_, hl2⟩
  have hg : ([a:b].toList)[pref.length]? = some cur := by rw [h]; simp
  have hlt : pref.length < (b - a + 1 - 1) / 1 := by
    rw [Nat.add_sub_cancel, Nat.div_one]
    omega
  rw [List.getElem?_range' hlt] at hg
  have hg' : a + 1 * pref.length = cur := Option.some.inj hg
  omega

theorem range_length (a b : Nat) : [a:b].toList.length = b - a := by
  rw [List.length_range']
  simp

theorem range_split_bounds {a b : Nat} {pref suff : List Nat} {cur : Nat} (h : [a:b].toList = pref ++ cur :: suff) :
    a ≤ cur ∧ cur < b := by
  have := range_split h
  omega

/-! Positions counted from the right end `r`: offset `k` is position `r - 1 - k`. -/

theorem rpos_rpos {r i : Nat} (hi : i < r) : r - 1 - (r - 1 - i) = i :=
  Nat.sub_sub_self (Nat.le_sub_one_of_lt hi)

theorem rpos_inj {r k y : Nat} (hk : k < r) (hy : y < r) : r - 1 - k = r - 1 - y ↔ k = y :=
  ⟨fun h => by rw [← rpos_rpos hk, h, rpos_rpos hy], fun h => h ▸ rfl⟩

theorem rpos_range {m r k : Nat} (h : m + k < r) : m ≤ r - 1 - k ∧ r - 1 - k < r :=
  ⟨Nat.le_sub_of_add_le (Nat.le_sub_one_of_lt h),
   Nat.lt_of_le_of_lt (Nat.sub_le _ _) (Nat.sub_one_lt (Nat.ne_of_gt (Nat.zero_lt_of_lt h)))⟩

theorem triple_iff {a0 : Array α} {β : Type} (x : M a0 β) (P : PArr a0 → Prop) (Q : β → PArr a0 → Prop) :
    (⦃fun s => ⌜P s⌝⦄ x ⦃⇓ r s => ⌜Q r s⌝⦄) ↔ ∀ s, P s → Q (x.run s).1 (x.run s).2 := by
  constructor
  · intro h s hp
    have := h s
    simp [wp] at this
    exact this hp
  · intro h s
    simp [wp]
    exact h s

theorem triple_conseq {a0 : Array α} {β : Type} {x : M a0 β} {P P' : PArr a0 → Prop} {Q Q' : β → PArr a0 → Prop}
    (h : ⦃fun s => ⌜P s⌝⦄ x ⦃⇓ r s => ⌜Q r s⌝⦄) (hp : ∀ s, P' s → P s) (hq : ∀ r s, Q r s → Q' r s) :
    ⦃fun s => ⌜P' s⌝⦄ x ⦃⇓ r s => ⌜Q' r s⌝⦄ :=
  (triple_iff x P' Q').2 fun s hs => hq _ _ ((triple_iff x P Q).1 h s (hp s hs))

theorem rd_spec {a0 : Array α} (i : Nat) (Q : PostCond α (.arg (PArr a0) .pure)) :
    ⦃fun s => Q.1 (at' s.val i) s⦄ (rd (a0 := a0) i) ⦃Q⦄ := by
  mvcgen [rd]

theorem swp_spec {a0 : Array α} (i j : Nat) (Q : PostCond Unit (.arg (PArr a0) .pure)) :
    ⦃fun s => Q.1 () ⟨s.val.swapIfInBounds i j, (swapIfInBounds_perm s.val i j).trans s.property⟩⦄
    (swp (a0 := a0) i j) ⦃Q⦄ := by
  mvcgen [swp]

/-- The four scanning loops of `partition` and `partition_equal` are this loop (`partition_eq`, `partitionEqual_eq`, both
    by `rfl`): while `guard x` holds and the element at `pos x` satisfies `c`, move on to `next x`; at most `n` steps. -/
def scanWhile {a0 : Array α} (guard : Nat → Prop) [DecidablePred guard] (pos : Nat → Nat) (c : α → Bool)
    (next : Nat → Nat) (n x0 : Nat) : M a0 Nat := do
  let mut x := x0
  for _ in [0:n] do
    if guard x ∧ c (← rd (pos x)) then x := next x else break
  return x

/- In the verification conditions, here and in the files that follow, `rename_i` names what `mvcgen` has introduced:
   `hpre` is the precondition of the triple, `pref cur suff hsplit` the place of a loop in its range, `hinv` the loop
   invariant before the iteration, `hc` the condition of the branch taken, `hpost` the postcondition of a call. -/

/-- The loop invariants have the shape "left by `break`, nothing remains to do (`suffix.length = 0`), and …; or still
    running, and …".  In the body of the loop the suffix `cur :: suff` is not empty: the loop is still running. -/
theorem running_of_cons {n : Nat} {P Q : Prop} (h : (n + 1 = 0 ∧ P) ∨ Q) : Q :=
  h.resolve_left fun hd => Nat.succ_ne_zero _ hd.1

/-- A scan keeps what its steps keep (`Inv`, of the position and the array, which a scan does not change).  If a measure
    `μ ≤ n` drops with every step the scan ends by its `break`, at a position where the loop condition fails. -/
theorem scanWhile_spec {a0 : Array α} (guard : Nat → Prop) [DecidablePred guard] (pos : Nat → Nat) (c : α → Bool)
    (next : Nat → Nat) (n x0 : Nat) (Inv : Nat → Array α → Prop) (μ : Nat → Nat)
    (hstep : ∀ x b, Inv x b → guard x → c (at' b (pos x)) = true → Inv (next x) b ∧ μ (next x) < μ x)
    (hn : ∀ b, Inv x0 b → μ x0 ≤ n) :
   ⦃fun s => ⌜Inv x0 s.val⌝⦄
   (scanWhile (a0 := a0) guard pos c next n x0)
   ⦃⇓ x s => ⌜Inv x s.val ∧ ¬ (guard x ∧ c (at' s.val (pos x)) = true)⌝⦄ := by
  mvcgen -trivial -leave [scanWhile, rd_spec]
  case inv1 =>
    exact ⇓ ⟨xs, x⟩ s => ⌜Inv x s.val ∧
      ((xs.suffix.length = 0 ∧ ¬ (guard x ∧ c (at' s.val (pos x)) = true)) ∨ μ x + xs.prefix.length ≤ n)⌝
  case vc1 => -- the body, loop condition true
    rename_i s0 hpre pref cur suff hsplit x s hinv hc x'
    have hcnt : μ x + pref.length ≤ n := running_of_cons hinv.2
    obtain ⟨hI, hμ⟩ := hstep x s.val hinv.1 hc.1 hc.2
    refine SPred.pure_intro ⟨hI, Or.inr ?_⟩
    rw [List.length_append]
    exact Nat.lt_of_lt_of_le (Nat.add_lt_add_right hμ _) hcnt
  case vc2 => -- the body, loop condition false: `break`
    rename_i s0 hpre pref cur suff hsplit x s hinv hc
    exact SPred.pure_intro ⟨hinv.1, Or.inl ⟨rfl, hc⟩⟩
  case vc3 => -- the invariant on entry
    rename_i s hpre
    exact SPred.pure_intro ⟨hpre, Or.inr (hn _ hpre)⟩
  case vc4 => -- after the loop: it was left by `break`, or `n` steps have brought `μ x` to 0 and no step is possible
    rename_i s0 hpre x s hinv
    refine SPred.pure_intro ⟨hinv.1, hinv.2.elim And.right fun hcnt hg => ?_⟩
    simp only [range_length] at hcnt
    have := (hstep x s.val hinv.1 hg.1 hg.2).2
    omega

/-! The measures of a scan upwards to `r` and of a scan downwards to `l` drop with a step. -/

theorem scan_up_lt {x r : Nat} (h : x < r) : r - (x + 1) < r - x := Nat.sub_lt_sub_left h (Nat.lt_succ_self x)

theorem scan_down_lt {l x : Nat} (h : l < x) : x - 1 - l < x - l :=
  Nat.sub_lt_sub_right (Nat.le_sub_one_of_lt h) (Nat.sub_one_lt (Nat.ne_of_gt (Nat.zero_lt_of_lt h)))

/-! The contracts that `recurseLoop_spec` (`SortRec`) takes as hypotheses; each is proved in the module of its routine. -/
section
variable (lt : α → α → Bool)

/-- what `partition` guarantees: the pivot ends at `lo + mid`, smaller elements before it, the others behind -/
def PartPost (lo hi : Nat) (a : Array α) (mid : Nat) (b : Array α) : Prop :=
  Frame lo hi a b ∧ lo + mid < hi ∧
  (∀ i, lo ≤ i → i < lo + mid → lt (at' b i) (at' b (lo + mid)) = true) ∧
  (∀ i, lo + mid < i → i < hi → lt (at' b i) (at' b (lo + mid)) = false)

/-- what `partition_equal` guarantees for the pivot value `pv`: `mid ≥ 1` elements not greater than `pv` in front, the
    greater ones behind -/
def EqPost (lo hi : Nat) (a : Array α) (pv : α) (mid : Nat) (b : Array α) : Prop :=
  Frame lo hi a b ∧ 1 ≤ mid ∧ lo + mid ≤ hi ∧
  (∀ i, lo ≤ i → i < lo + mid → lt pv (at' b i) = false) ∧
  (∀ i, lo + mid ≤ i → i < hi → lt pv (at' b i) = true)

def PartitionSpec : Prop := ∀ (a0 : Array α) (lo hi pivotIdx : Nat) (a : Array α),
   ⦃fun s => ⌜s.val = a ∧ hi ≤ a.size ∧ lo + pivotIdx < hi⌝⦄
   (partition (a0 := a0) lt lo hi pivotIdx)
   ⦃⇓ r s => ⌜PartPost lt lo hi a r.1 s.val⌝⦄

def PartitionEqualSpec : Prop := ∀ (a0 : Array α) (lo hi pivotIdx : Nat) (a : Array α),
   ⦃fun s => ⌜s.val = a ∧ hi ≤ a.size ∧ lo + pivotIdx < hi⌝⦄
   (partitionEqual (a0 := a0) lt lo hi pivotIdx)
   ⦃⇓ mid s => ⌜EqPost lt lo hi a (at' a (lo + pivotIdx)) mid s.val⌝⦄

def ChoosePivotSpec : Prop := ∀ (a0 : Array α) (lo hi : Nat) (a : Array α),
   ⦃fun s => ⌜s.val = a ∧ hi ≤ a.size ∧ lo < hi⌝⦄
   (choosePivot (a0 := a0) lt lo hi)
   ⦃⇓ r s => ⌜Frame lo hi a s.val ∧ r.1 < hi - lo⌝⦄

def PartialInsertionSpec : Prop := ∀ (a0 : Array α) (lo hi : Nat) (a : Array α),
   ⦃fun s => ⌜s.val = a ∧ hi ≤ a.size⌝⦄
   (partialInsertionSort (a0 := a0) lt lo hi)
   ⦃⇓ r s => ⌜Frame lo hi a s.val ∧ (r = true → Sorted lt lo hi s.val)⌝⦄

def BreakPatternsSpec : Prop := ∀ (a0 : Array α) (lo hi : Nat) (a : Array α),
   ⦃fun s => ⌜s.val = a ∧ hi ≤ a.size⌝⦄
   (breakPatterns (a0 := a0) lo hi)
   ⦃⇓ _ s => ⌜Frame lo hi a s.val⌝⦄

def HeapsortSpec : Prop := ∀ (a0 : Array α) (lo hi : Nat) (a : Array α),
   ⦃fun s => ⌜s.val = a ∧ hi ≤ a.size⌝⦄
   (heapsort (a0 := a0) lt lo hi)
   ⦃⇓ _ s => ⌜Frame lo hi a s.val ∧ Sorted lt lo hi s.val⌝⦄
end

end NucleoVerif.PS
