import NucleoVerif.Props.C06
import NucleoVerif.Props.C18
/-! The worker's comparison is a strict total order; insertion sort by it yields the sorted permutation; placeholders
sort last and are what the truncation removes. -/
namespace NucleoVerif.Nu

variable (len : Item → Nat) (items : Nat → Option Item)

/-- the key of the comparison: score descending, then (placeholder?, length, index) ascending (`matchLess_iff`) -/
def mkey (m : Match) : Nat × Nat × Nat × Nat :=
  (m.score, if m.idx = PLACE then 1 else 0, if m.idx = PLACE then 0 else ((items m.idx).map len |>.getD 0), if m.idx = PLACE then 0 else m.idx)

theorem matchLess_iff (a b : Match) :
    matchLess len items a b = true ↔
      a.score > b.score ∨ (a.score = b.score ∧ a.idx ≠ PLACE ∧
        (b.idx = PLACE ∨ (b.idx ≠ PLACE ∧
          (((items a.idx).map len |>.getD 0) < ((items b.idx).map len |>.getD 0) ∨
           (((items a.idx).map len |>.getD 0) = ((items b.idx).map len |>.getD 0) ∧ a.idx < b.idx))))) := by
  unfold matchLess
  by_cases hs : a.score = b.score
  · simp only [hs, ne_eq, not_true_eq_false, if_false, gt_iff_lt, Nat.lt_irrefl, false_or, true_and]
    by_cases ha : a.idx = PLACE
    · simp [ha]
    · simp only [ha, if_false, not_false_eq_true, true_and]
      by_cases hb : b.idx = PLACE
      · simp [hb]
      · simp only [hb, if_false, false_or, not_false_eq_true, true_and]
        by_cases hl : ((items a.idx).map len |>.getD 0) = ((items b.idx).map len |>.getD 0)
        · simp [hl]
        · simp only [hl, if_false, decide_eq_true_eq, false_and, or_false]
  · simp only [ne_eq, hs, not_false_eq_true, if_true, gt_iff_lt, decide_eq_true_eq, false_and, or_false]

theorem matchLess_congr (it1 it2 : Nat → Option Item) (a b : Match) (ha : it1 a.idx = it2 a.idx) (hb : it1 b.idx = it2 b.idx) :
    matchLess len it1 a b = matchLess len it2 a b := by
  unfold matchLess
  rw [ha, hb]

theorem matchLess_trans (a b c : Match) (h1 : matchLess len items a b = true) (h2 : matchLess len items b c = true) :
    matchLess len items a c = true := by
  rw [matchLess_iff] at *
  rcases h1 with h1 | ⟨e1, na, h1⟩
  · rcases h2 with h2 | ⟨e2, _, _⟩
    · exact Or.inl (Nat.lt_trans h2 h1)
    · exact Or.inl (e2 ▸ h1)
  · rcases h2 with h2 | ⟨e2, nb, h2⟩
    · exact Or.inl (e1 ▸ h2)
    · refine Or.inr ⟨e1.trans e2, na, ?_⟩
      rcases h1 with pb | ⟨_, h1⟩
      · exact absurd pb nb
      · rcases h2 with pc | ⟨nc, h2⟩
        · exact Or.inl pc
        · refine Or.inr ⟨nc, ?_⟩
          rcases h1 with l1 | ⟨l1, i1⟩ <;> rcases h2 with l2 | ⟨l2, i2⟩
          · exact Or.inl (Nat.lt_trans l1 l2)
          · exact Or.inl (l2 ▸ l1)
          · exact Or.inl (l1 ▸ l2)
          · exact Or.inr ⟨l1.trans l2, Nat.lt_trans i1 i2⟩

theorem matchLess_asymm (a b : Match) (h1 : matchLess len items a b = true) : matchLess len items b a = false := by
  cases h : matchLess len items b a with
  | false => rfl
  | true =>
    have := matchLess_trans len items a b a h1 h
    rw [matchLess_irrefl] at this
    cases this

/-- "`a` may stand before `b`" -/
def mle (a b : Match) : Prop := matchLess len items b a = false

theorem mle_of_less (a b : Match) (h : matchLess len items a b = true) : mle len items a b := matchLess_asymm len items a b h

theorem mle_total (a b : Match) : mle len items a b ∨ mle len items b a := by
  unfold mle
  cases h : matchLess len items b a with
  | false => exact Or.inl rfl
  | true => exact Or.inr (matchLess_asymm len items b a h)

theorem mle_trans (a b c : Match) (h1 : mle len items a b) (h2 : mle len items b c) : mle len items a c := by
  unfold mle at *
  cases h : matchLess len items c a with
  | false => rfl
  | true =>
    -- were c < a: by totality c < b, against `h2`, or b < c < a, against `h1`
    by_cases hcb : c = b
    · subst hcb; rw [h] at h1; cases h1
    · rcases matchLess_total len items c b hcb with hlt | hlt
      · rw [hlt] at h2; cases h2
      · have := matchLess_trans len items b c a hlt h
        rw [this] at h1; cases h1

theorem sortMatches_perm (l : List Match) : (sortMatches len items l).Perm l :=
  foldr_ins_perm (ins := insertMatch len items) (fun _ => rfl) (fun _ _ _ => rfl) l

theorem sortMatches_sorted (l : List Match) : (sortMatches len items l).Pairwise (mle len items) :=
  foldr_ins_sorted (ins := insertMatch len items) (fun _ => rfl) (fun _ _ _ => rfl) (mle_of_less len items)
    (fun _ _ h => Bool.eq_false_iff.mpr h) (mle_trans len items) l

def isPlace (m : Match) : Bool := m.idx == PLACE

theorem countPlace_eq (ms : List Match) : countPlace ms = (ms.filter isPlace).length := by
  unfold countPlace isPlace
  congr 1

theorem place_not_before (a b : Match) (ha : isPlace a = true) (ha0 : a.score = 0) (hb : isPlace b = false)
    (h : mle len items a b) : False := by
  unfold mle at h
  have hai : a.idx = PLACE := by simpa [isPlace] using ha
  have hbi : b.idx ≠ PLACE := by simpa [isPlace] using hb
  have : matchLess len items b a = true := by
    rw [matchLess_iff, ha0]
    rcases Nat.eq_zero_or_pos b.score with hs | hs
    · exact Or.inr ⟨hs, hbi, Or.inl hai⟩
    · exact Or.inl hs
  rw [this] at h
  cases h

theorem take_drops_places : ∀ (l : List Match), l.Pairwise (mle len items) → (∀ m ∈ l, isPlace m = true → m.score = 0) →
    l.take (l.length - (l.filter isPlace).length) = l.filter (fun m => !isPlace m) := by
  intro l
  induction l with
  | nil => intro _ _; rfl
  | cons a t ih =>
    intro hs h0
    have hs' := List.pairwise_cons.mp hs
    have iht := ih hs'.2 (fun m hm => h0 m (by simp [hm]))
    have hle : (t.filter isPlace).length ≤ t.length := List.length_filter_le _ _
    by_cases ha : isPlace a = true
    · -- then everything behind it is a placeholder as well
      have hall : ∀ m ∈ t, isPlace m = true := by
        intro m hm
        cases hp : isPlace m with
        | true => rfl
        | false => exact (place_not_before len items a m ha (h0 a (by simp) ha) hp (hs'.1 m hm)).elim
      have hf : t.filter isPlace = t := List.filter_eq_self.mpr hall
      have hnf : t.filter (fun m => !isPlace m) = [] := by
        apply List.filter_eq_nil_iff.mpr
        intro m hm; simp [hall m hm]
      simp [ha, hf, hnf]
    · have ha' : isPlace a = false := by simpa using ha
      simp only [List.filter_cons, ha', Bool.false_eq_true, if_false, Bool.not_false, if_true, List.length_cons]
      rw [Nat.succ_sub hle, List.take_succ_cons, iht]

end NucleoVerif.Nu
