import NucleoVerif.Model.Chars
import NucleoVerif.Gen.RefData
/-! For C16: bounded Bool-valued quantification, so that the kernel can decide facts about whole tables;
the binary search; what the sweeps establish about the fold table and the Latin tables. -/
namespace NucleoVerif
open Gen

/-- `p 0 ∧ … ∧ p (n-1)` as a Bool, by structural recursion (kernel-friendly; `p n` comes first so
    that the kernel evaluates the conjunction as a loop, not to depth `n`) -/
def allUpTo (p : Nat → Bool) : Nat → Bool
  | 0 => true
  | n+1 => p n && allUpTo p n

theorem allUpTo_spec {p : Nat → Bool} : ∀ {n}, allUpTo p n = true → ∀ i, i < n → p i = true
  | 0, _, i, hi => absurd hi (Nat.not_lt_zero i)
  | n+1, h, i, hi => by
    simp only [allUpTo, Bool.and_eq_true] at h
    by_cases e : i = n
    · subst e; exact h.1
    · exact allUpTo_spec h.2 i (by omega)

theorem lt_of_step {f : Nat → Nat} {n : Nat} (step : ∀ i, i + 1 < n → f i < f (i + 1)) :
    ∀ i j, i < j → j < n → f i < f j := by
  intro i j hij hj
  induction j with
  | zero => exact absurd hij (Nat.not_lt_zero i)
  | succ j ih =>
    rcases Nat.lt_succ_iff_lt_or_eq.mp hij with l | rfl
    · exact Nat.lt_trans (ih l (Nat.lt_of_succ_lt hj)) (step j hj)
    · exact step i hj

theorem mid_bounds {lo hi : Nat} (h : lo < hi) : lo ≤ (lo + hi) / 2 ∧ (lo + hi) / 2 < hi := by omega

theorem bsearch_some {key : Nat → Nat} {c fuel lo hi i : Nat} (h : bsearch key c fuel lo hi = some i) :
    lo ≤ i ∧ i < hi ∧ key i = c := by
  fun_induction bsearch key c fuel lo hi with
  | case1 => cases h
  | case2 _ lo hi hlh mid k hk => exact Option.some.inj h ▸ ⟨(mid_bounds hlh).1, (mid_bounds hlh).2, hk⟩
  | case3 _ lo hi hlh mid k _ _ ih => exact ⟨Nat.le_trans (mid_bounds hlh).1 (Nat.le_of_succ_le (ih h).1), (ih h).2⟩
  | case4 _ lo hi hlh mid k _ _ ih => exact ⟨(ih h).1, Nat.lt_trans (ih h).2.1 (mid_bounds hlh).2, (ih h).2.2⟩
  | case5 => cases h

theorem bsearch_none {key : Nat → Nat} {c n : Nat} (mono : ∀ i j, i < j → j < n → key i < key j)
    {fuel lo hi : Nat} (hn : hi ≤ n) (hf : hi < lo + fuel) (h : bsearch key c fuel lo hi = none) :
    ∀ i, lo ≤ i → i < hi → key i ≠ c := by
  have le : ∀ i j, i ≤ j → j < n → key i ≤ key j := fun i j hij hj =>
    (Nat.eq_or_lt_of_le hij).elim (fun e => e ▸ Nat.le_refl _) (fun l => Nat.le_of_lt (mono i j l hj))
  fun_induction bsearch key c fuel lo hi with
  | case1 => omega
  | case2 => cases h
  | case3 _ lo hi hlh mid k _ hlt ih =>
    have hm : lo ≤ mid ∧ mid < hi := mid_bounds hlh
    intro i _ hi'
    rcases Nat.lt_or_ge mid i with hgt | hle
    · clear_value mid
      exact ih hn (by omega) h i hgt hi'
    · exact Nat.ne_of_lt (Nat.lt_of_le_of_lt (le i mid hle (Nat.lt_of_lt_of_le hm.2 hn)) hlt)
  | case4 _ lo hi hlh mid k hne hge ih =>
    have hm : lo ≤ mid ∧ mid < hi := mid_bounds hlh
    intro i hlo' hi'
    rcases Nat.lt_or_ge i mid with hlt | hle
    · clear_value mid
      exact ih (by omega) (by omega) h i hlo' hlt
    · have hck : c < k := Nat.lt_of_le_of_ne (Nat.le_of_not_lt hge) (Ne.symm hne)
      exact Nat.ne_of_gt (Nat.lt_of_lt_of_le hck (le mid i hle (Nat.lt_of_lt_of_le hi' hn)))
  | case5 => omega

/-- `tblGet` without its bounds test: the sweeps only read below the table length (`tblGet_eq_rawGet`) -/
def rawGet (t i : Nat) : Nat := (t >>> (21 * i)) &&& 0x1FFFFF

theorem tblGet_eq_rawGet {t len i : Nat} (h : i < len) : tblGet t len i = rawGet t i := if_pos h

theorem fold_sorted_b :
    allUpTo (fun i => (rawGet FOLD_KEYS i).blt (rawGet FOLD_KEYS (i + 1))) (FOLD_len - 1) = true := by
  decide +kernel

theorem foldKey_mono : ∀ i j, i < j → j < FOLD_len → foldKey i < foldKey j :=
  lt_of_step fun i h => by
    rw [foldKey, foldKey, tblGet_eq_rawGet h, tblGet_eq_rawGet (Nat.lt_of_succ_lt h)]
    exact Nat.blt_eq.mp (allUpTo_spec fold_sorted_b i (by omega))

theorem foldKey_inj {i j : Nat} (hi : i < FOLD_len) (hj : j < FOLD_len) (h : foldKey i = foldKey j) : i = j := by
  rcases Nat.lt_trichotomy i j with l | e | l
  · exact absurd h (Nat.ne_of_lt (foldKey_mono i j l hj))
  · exact e
  · exact absurd h.symm (Nat.ne_of_lt (foldKey_mono j i l hi))

theorem foldSearch_some {c i : Nat} (h : foldSearch c = some i) : i < FOLD_len ∧ foldKey i = c :=
  (bsearch_some h).2

theorem foldSearch_none {c : Nat} (h : foldSearch c = none) : ∀ i, i < FOLD_len → foldKey i ≠ c :=
  fun i hi => bsearch_none foldKey_mono (Nat.le_refl _) (by omega) h i (Nat.zero_le i) hi

/-- the set `{key 0, …, key (n-1)}` as a bit set.  Idempotence of `toLower` needs "no value is a key";
    the values are not sorted, so membership in this set replaces a search per value. -/
def keyBits (key : Nat → Nat) : Nat → Nat
  | 0 => 0
  | n+1 => keyBits key n ||| 1 <<< key n

theorem testBit_keyBits {key : Nat → Nat} {n j : Nat} (h : j < n) : (keyBits key n).testBit (key j) = true := by
  induction n with
  | zero => omega
  | succ n ih =>
    rw [keyBits, Nat.testBit_or, Bool.or_eq_true]
    by_cases e : j = n
    · subst e; exact Or.inr (by simp)
    · exact Or.inl (ih (by omega))

theorem fold_vals_not_keys_b :
    allUpTo (fun i => !(keyBits (rawGet FOLD_KEYS) FOLD_len).testBit (rawGet FOLD_VALS i)) FOLD_len = true := by
  decide +kernel

theorem foldVal_ne_foldKey {i j : Nat} (hi : i < FOLD_len) (hj : j < FOLD_len) : foldVal i ≠ foldKey j := by
  intro e
  have := allUpTo_spec fold_vals_not_keys_b i hi
  rw [foldVal, foldKey, tblGet_eq_rawGet hi, tblGet_eq_rawGet hj] at e
  rw [e, testBit_keyBits hj] at this
  cases this

theorem fold_ascii_b :
    allUpTo (fun i => foldKey i == 65 + i && foldVal i == 97 + i) 26 = true ∧ 128 ≤ foldKey 26 := by
  decide +kernel

theorem fold_AZ {i : Nat} (h : i < 26) : foldKey i = 65 + i ∧ foldVal i = 97 + i := by
  simpa using allUpTo_spec fold_ascii_b.1 i h

theorem lt_26_of_foldKey_lt {i : Nat} (hi : i < FOLD_len) (h : foldKey i < 128) : i < 26 := by
  rcases Nat.lt_trichotomy i 26 with l | e | l
  · exact l
  · have := fold_ascii_b.2; rw [← e] at this; omega
  · have := fold_ascii_b.2; have := foldKey_mono 26 i l hi; omega

theorem foldKey_ascii {c : Nat} (h : c < 128) : (∃ i, i < FOLD_len ∧ foldKey i = c) ↔ 65 ≤ c ∧ c ≤ 90 := by
  constructor
  · rintro ⟨i, hi, rfl⟩
    have h26 := lt_26_of_foldKey_lt hi h
    have := (fold_AZ h26).1
    omega
  · intro hc
    exact ⟨c - 65, Nat.lt_trans (by omega) (by decide : 26 < FOLD_len), by rw [(fold_AZ (by omega)).1]; omega⟩

/-- entry `i` of the Latin table `t` is a scalar value, a fixed point of the normalization
    (`Ǣ ↦ Æ ↦ Æ`), and the value the NFKD rule (reference table `r`) demands where it demands one -/
def latinEntryOk (t r : Nat) (i : Nat) : Bool :=
  let v := rawGet t i
  v.blt 0x110000 && (normalizeLatin v).beq v && ((rawGet r i).beq 0x1FFFFF || v.beq (rawGet r i))

theorem latinEntryOk_spec {t len r rlen : Nat} (h : allUpTo (latinEntryOk t r) len = true) (hr : len ≤ rlen)
    (i : Nat) (hi : i < len) :
    tblGet t len i < 0x110000 ∧ normalizeLatin (tblGet t len i) = tblGet t len i ∧
    ∀ want, (if tblGet r rlen i = 0x1FFFFF then none else some (tblGet r rlen i)) = some want →
      tblGet t len i = want := by
  have := allUpTo_spec h i hi
  rw [tblGet_eq_rawGet hi, tblGet_eq_rawGet (Nat.lt_of_lt_of_le hi hr)]
  simp only [latinEntryOk, Bool.and_eq_true, Bool.or_eq_true, Nat.blt_eq, Nat.beq_eq] at this
  refine ⟨this.1.1, this.1.2, fun want hw => ?_⟩
  rcases this.2 with e | e
  · rw [if_pos e] at hw; cases hw
  · have hne : rawGet r i ≠ 0x1FFFFF := by rw [← e]; omega  -- `v < 0x110000` (`this.1.1`): not the sentinel
    rw [if_neg hne] at hw
    exact e.trans (Option.some.inj hw)

theorem latin1ab_ok_b : allUpTo (latinEntryOk LATIN_1AB REF_LATIN_1AB) LATIN_1AB_len = true := by
  decide +kernel

theorem latinExt_ok_b :
    allUpTo (latinEntryOk LATIN_EXTENDED_ADDITIONAL REF_LATIN_EXTENDED_ADDITIONAL) LATIN_EXTENDED_ADDITIONAL_len = true := by
  decide +kernel

theorem supsub_ok_b :
    allUpTo (latinEntryOk SUPERSCRIPTS_AND_SUBSCRIPTS REF_SUPERSCRIPTS_AND_SUBSCRIPTS)
      SUPERSCRIPTS_AND_SUBSCRIPTS_len = true := by
  decide +kernel

end NucleoVerif
