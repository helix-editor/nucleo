import NucleoVerif.Lemmas.OptCtx
/-! The traceback.  `At` ties a state of the loop to a value of the recurrence and the alignment it carries; each bit read
moves it to the value that one came from (`At.step_m`, `At.step_p`), hence `trace_spec`. -/
namespace NucleoVerif.OptImpl
open NucleoVerif NucleoVerif.Gen NucleoVerif.Gen.Opt NucleoVerif.DP

/-- the traceback reads row `r`'s cells from the row's true offset on; `populate_matrix` wrote them from where it scanned
    the row (column 0 for row 0) -/
theorem L_split (c : Ctx) (g : Good c) (r : Nat) : c.so r - c.ro r + (c.width - (c.so r - r)) = c.L r := by
  cases r with
  | zero => exact Nat.add_sub_of_le (Nat.le_of_lt (g.so_lt (Nat.lt_of_lt_of_le Nat.zero_lt_two g.hN)))
  | succ r => rw [c.ro_succ, Nat.sub_self, Nat.zero_add, c.L_of_pos (Nat.le_add_left 1 r)]

/-- the segments split off the end of `matrix_cells[..matrix_len]` are the ones `populate_matrix` wrote: after `k` splits
    the remainder ends where the traceback reads row `i = N-1-k` from -/
theorem segBack_eq (c : Ctx) (g : Good c) : ∀ k i, i + k + 1 = c.n.length →
    segBack c.width c.offs (c.seg (c.n.length - 1)) k = c.seg i + (c.so i - c.ro i) := by
  intro k
  induction k with
  | zero =>
    intro i hi
    have hN := g.hN
    have hlast : c.n.length - 1 = i := by omega
    rw [hlast, c.ro_of_pos (by omega), Nat.sub_self]
    rfl
  | succ k ih =>
    intro i hi
    have hrow : c.offs.length - 2 - k = i := by rw [g.hlen]; omega
    rw [segBack, hrow, ih (i + 1) (by omega), c.ro_succ, Nat.sub_self, Nat.add_zero, seg_succ c g i (by omega),
      ← L_split c g i, ← Nat.add_assoc]
    exact Nat.add_sub_cancel ..

theorem segOf_eq (c : Ctx) (g : Good c) (r : Nat) (hr : r + 2 ≤ c.n.length) :
    segOf c.width c.offs (c.seg (c.n.length - 1)) r = c.seg r + (c.so r - c.ro r) :=
  segBack_eq c g _ r (by rw [g.hlen]; omega)

/-- P is `none` at the row's first cell -/
theorem steps_nones_carry (c : Ctx) (g : Good c) (r : Nat) (hr : r < c.n.length) (t : Nat) (st : NStep)
    (ht : c.ro r + t = c.so r) (h : (c.steps r)[t]? = some st) : st.p' = none := by
  obtain ⟨_, _, _, a1, a2⟩ := nsteps_get _ _ _ none none _ st h
  rw [carryAfter_drop_nones (c.row r) (c.ro r) t (ht ▸ g.hnone r hr)] at a1 a2
  unfold NStep.p'
  rw [a1, a2]; rfl

/-- The state `(r, col, matched)` of the traceback names a value of the recurrence, M(r, j) if `matched` and P(r, j)
    otherwise, at the column `j = so r + col`; `At` says that this value exists and which alignment it carries.  The bit
    the loop reads next says where that value came from (`RowFacts`), and that is where the loop goes.
    `t` is the column as an index into the records of row `r`, which begin where the row is scanned from. -/
structure At (c : Ctx) (r col : Nat) (matched : Bool) (path : List Nat) : Prop where
  hr : r + 2 ≤ c.n.length
  hcol : c.so r + col < c.width + r
  hst : ∃ t st, c.ro r + t = c.so r + col ∧ (c.steps r)[t]? = some st ∧ (if matched then mpath st.m else ppath st.p') = some path

theorem lt_L_of {c : Ctx} (g : Good c) {r col t : Nat} (hr : r + 2 ≤ c.n.length) (hcol : c.so r + col < c.width + r)
    (ht : c.ro r + t = c.so r + col) : t < c.L r := by
  rw [c.L_eq_of_le (g.le_ro (Nat.lt_of_succ_lt hr))]
  exact Nat.lt_sub_of_add_lt (by omega)

theorem segOf_add (c : Ctx) (g : Good c) {cells : List MatrixCell} (hcl : cells.length = c.seg (c.n.length - 1))
    {r col t : Nat} (hr : r + 2 ≤ c.n.length) (ht : c.ro r + t = c.so r + col) :
    segOf c.width c.offs cells.length r + col = c.seg r + t := by
  have := c.ro_le_so r
  rw [hcl, segOf_eq c g r hr]
  omega

/-- the four conditions `traceSafe` asks of every cell visited -/
theorem At.here {c : Ctx} (g : Good c) {cells : List MatrixCell} (hcl : cells.length = c.seg (c.n.length - 1))
    {r col : Nat} {matched : Bool} {path : List Nat} (a : At c r col matched path) :
    r ≤ c.so r ∧ c.so r - r ≤ c.width ∧ col < c.width - (c.so r - r) ∧
      segOf c.width c.offs cells.length r + (c.width - (c.so r - r)) ≤ cells.length := by
  have hr := a.hr
  have hcol := a.hcol
  have hlo := g.le_so (Nat.lt_of_succ_lt hr)
  -- the segment ends where `populate_matrix` began the next one
  have hseg : segOf c.width c.offs cells.length r + (c.width - (c.so r - r)) ≤ cells.length := by
    rw [hcl, segOf_eq c g r hr, Nat.add_assoc, L_split c g r, ← seg_succ c g r hr]
    exact seg_le_last c g hr
  obtain ⟨k, hk⟩ := Nat.exists_eq_add_of_le hlo
  rw [hk] at hcol
  rw [hk, Nat.add_sub_cancel_left] at hseg ⊢
  exact ⟨Nat.le_add_right .., by omega, Nat.lt_sub_of_add_lt (by omega), hseg⟩

theorem At.cell {c : Ctx} {r col : Nat} {path : List Nat} (a : At c r col true path) :
    ∃ cc, (c.row r)[c.so r + col]? = some (some cc) ∧ cc.path = path := by
  obtain ⟨_, _, t, st, ht, hst, hp⟩ := a
  obtain ⟨hm, _⟩ := nsteps_get _ _ _ none none _ st hst
  rw [List.getElem?_drop, ht] at hm
  simp only [if_true] at hp
  cases h : st.m with
  | none => rw [h] at hp; cases hp
  | some cc => rw [h] at hm hp; exact ⟨cc, hm, Option.some.inj hp⟩

theorem At.step_0 {c : Ctx} {col : Nat} {path : List Nat} (a : At c 0 col true path) :
    ∃ x, c.cols[c.so 0 + col]? = some x ∧ path = [x.idx] := by
  obtain ⟨cc, hcc, rfl⟩ := a.cell
  exact firstRow_path _ _ _ _ cc hcc

/-- the cell `cc` = M(r+1, so (r+1) + col) was produced by the step record `stp` of row `r` from M(r, ·) or P(r, ·) of the
    column before, whichever the bit `b` names: that is where the traceback stands next -/
theorem At.of_pred {c : Ctx} (g : Good c) {r col : Nat} (hr : r + 2 ≤ c.n.length)
    (hcol : c.so (r + 1) + col < c.width + (r + 1)) (b : Bool) (stp : NStep) (cc : Cell)
    (hstp : (c.steps r)[c.gap r + col]? = some stp)
    (hsrc : some cc.path = (if b then mpath stp.m else ppath stp.p').map (· ++ [stp.col.idx])) :
    ∃ src x, c.cols[c.so (r + 1) + col]? = some x ∧ cc.path = src ++ [x.idx] ∧
      At c r (col + (c.so (r + 1) - c.so r) - 1) b src := by
  have hgap := g.ro_gap hr
  have hup := g.trace_up hr col
  generalize col + (c.so (r + 1) - c.so r) - 1 = col' at hup ⊢
  obtain ⟨_, hx, _⟩ := nsteps_get _ _ _ none none _ stp hstp
  have hcolumn : c.ro r + 1 + (c.gap r + col) = c.so (r + 1) + col := by omega
  rw [List.getElem?_drop, hcolumn] at hx
  cases h : (if b then mpath stp.m else ppath stp.p') with
  | none => rw [h] at hsrc; cases hsrc
  | some src =>
    rw [h] at hsrc
    exact ⟨src, stp.col, hx, Option.some.inj hsrc,
      { hr := hr, hcol := by omega, hst := ⟨_, stp, by omega, hstp, h⟩ }⟩

theorem At.step_m {c : Ctx} (g : Good c) {cells : List MatrixCell} (hcl : cells.length = c.seg (c.n.length - 1))
    (hfacts : ∀ r, r + 2 ≤ c.n.length → RowFacts c r cells) {r col : Nat} {path : List Nat} (a : At c (r + 1) col true path) :
    ∃ src x, c.cols[c.so (r + 1) + col]? = some x ∧ path = src ++ [x.idx] ∧
      At c r (col + (c.so (r + 1) - c.so r) - 1)
        ((cells.getD (segOf c.width c.offs cells.length (r + 1) + col) default).get true) src := by
  obtain ⟨cc, hcc, rfl⟩ := a.cell
  obtain ⟨hr, hcol, t, st, ht, hst, _⟩ := a
  have hlt := lt_L_of g hr hcol ht
  rw [segOf_add c g hcl hr ht]
  obtain rfl : t = col := Nat.add_left_cancel (c.ro_succ r ▸ ht)
  have hm : ((c.row (r + 1)).drop (c.so (r + 1)))[t]? = some (some cc) := by rw [List.getElem?_drop]; exact hcc
  rw [g.hlink r (Nat.lt_of_succ_lt hr), List.getElem?_map, List.getElem?_drop] at hm
  cases hs : (c.steps r)[c.so (r + 1) - 1 - c.ro r + t]? with
  | none => rw [hs] at hm; cases hm
  | some stp =>
    rw [hs] at hm
    exact At.of_pred g (Nat.le_of_succ_le hr) hcol _ stp cc hs
      ((hfacts (r + 1) hr t st hlt hst).2 stp cc (Nat.le_add_left 1 r) hs (Option.some.inj hm))

/-- `col ≥ 1` because P is `none` at the row's first cell; M and P of the column before are the `m` and `p'` of the record
    before this one -/
theorem At.step_p {c : Ctx} (g : Good c) {cells : List MatrixCell} (hcl : cells.length = c.seg (c.n.length - 1))
    (hfacts : ∀ r, r + 2 ≤ c.n.length → RowFacts c r cells) {r col : Nat} {path : List Nat} (a : At c r col false path) :
    1 ≤ col ∧ At c r (col - 1) ((cells.getD (segOf c.width c.offs cells.length r + col) default).get false) path := by
  obtain ⟨hr, hcol, t, st, ht, hst, hp⟩ := a
  have hlt := lt_L_of g hr hcol ht
  simp only [Bool.false_eq_true, if_false] at hp
  cases col with
  | zero =>
    rw [steps_nones_carry c g r (Nat.lt_of_succ_lt hr) t st ht hst] at hp
    cases hp
  | succ col =>
    have hf := (hfacts r hr _ st hlt hst).1
    rw [segOf_add c g hcl hr ht]
    obtain ⟨t, rfl⟩ : ∃ t', t = t' + 1 := ⟨t - 1, by have := c.ro_le_so r; omega⟩
    obtain ⟨hlen, _⟩ := List.getElem?_eq_some_iff.mp hst
    have hst' := List.getElem?_eq_getElem (Nat.lt_of_succ_lt hlen)
    obtain ⟨e1, e2⟩ := nsteps_consecutive _ _ _ _ st _ hst hst'
    rw [e1, e2] at hf
    exact ⟨Nat.le_add_left 1 col,
      { hr := hr, hcol := Nat.lt_of_succ_lt hcol, hst := ⟨t, _, Nat.succ.inj ht, hst', by rw [← hf]; exact hp⟩ }⟩

/-- the fuel `fuzzy_match_optimal`'s traceback is given in the model suffices from every cell -/
theorem At.fuel_lt {c : Ctx} (g : Good c) {r col : Nat} {matched : Bool} {path : List Nat} (a : At c r col matched path) :
    r + (c.so r + col) < c.cols.length + c.n.length + 1 := by
  have := a.hr
  have := a.hcol
  have := g.width_add
  omega

theorem trace_spec (c : Ctx) (g : Good c) (start : Nat) (cells : List MatrixCell)
    (hcl : cells.length = c.seg (c.n.length - 1))
    (hidx : ∀ j x, c.cols[j]? = some x → x.idx = start + j)
    (hfacts : ∀ r, r + 2 ≤ c.n.length → RowFacts c r cells) :
    ∀ (fuel r col : Nat) (matched : Bool) (out path : List Nat), At c r col matched path → r + (c.so r + col) < fuel →
      traceGo cells c.width c.offs start fuel ⟨r, col, matched, out⟩ = path ++ out := by
  intro fuel
  induction fuel with
  | zero => intro r col matched out path _ hf; exact absurd hf (Nat.not_lt_zero _)
  | succ fuel ih =>
    intro r col matched out path a hfuel
    cases matched with
    | false =>
      obtain ⟨hcol, a'⟩ := a.step_p g hcl hfacts
      simp only [traceGo, Bool.false_eq_true, if_false]
      exact ih r (col - 1) _ out path a' (by omega)
    | true =>
      cases r with
      | zero =>
        obtain ⟨x, hx, rfl⟩ := a.step_0
        simp only [traceGo, if_true, Ctx.offs_getD, hidx _ x hx, List.singleton_append, List.cons.injEq, and_true]
        omega
      | succ r =>
        obtain ⟨src, x, hx, rfl, a'⟩ := a.step_m g hcl hfacts
        have hup := g.trace_up a'.hr col
        simp only [traceGo, if_true, Ctx.offs_getD]
        generalize col + (c.so (r + 1) - c.so r) - 1 = col' at a' hup ⊢
        rw [ih r col' _ _ src a' (by omega), hidx _ x hx, List.append_assoc, List.singleton_append, Nat.add_assoc,
          Nat.add_comm col]

end NucleoVerif.OptImpl
