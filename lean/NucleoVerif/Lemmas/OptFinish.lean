import NucleoVerif.Lemmas.OptPopulate
import NucleoVerif.Lemmas.OptTrace
/-! The best cell of the last row and the end of `fuzzy_match_optimal`; with them the model against the recurrence on a
context that satisfies `Good` (`optimalImpl_ctx`). -/
namespace NucleoVerif.OptImpl
open NucleoVerif NucleoVerif.Gen NucleoVerif.Gen.Opt NucleoVerif.DP

theorem maxByScore_cons_ge (x : ScoreCell) (xs : List ScoreCell) (i : Nat) (ib : Option (Nat × ScoreCell))
    (h : ∀ b, ib = some b → x.score ≥ b.2.score) : maxByScore (x :: xs) i ib = maxByScore xs (i + 1) (some (i, x)) := by
  cases ib with
  | none => rfl
  | some b => simp only [maxByScore, h b rfl, if_true]

theorem maxByScore_cons_lt (x : ScoreCell) (xs : List ScoreCell) (i : Nat) (b : Nat × ScoreCell) (h : ¬ x.score ≥ b.2.score) :
    maxByScore (x :: xs) i (some b) = maxByScore xs (i + 1) (some b) := by
  simp only [maxByScore, h, if_false]

/-- what the running maxima of `maxByScore` over the score row's cells `ss` and of `bestCell` over the recurrence's step
    records `P` have in common: both still hold nothing real (the score row's side at most an `UNMATCHED` cell), or they
    hold the same column `e` -/
def Acc (ss : List ScoreCell) (P : List NStep) (ib : Option (Nat × ScoreCell)) (nb : Option Cell) : Prop :=
  (nb = none ∧ ∀ x, ib = some x → x.2.score = 0) ∨
  ∃ c e sc st, nb = some c ∧ ib = some (e, sc) ∧ ss[e]? = some sc ∧ P[e]? = some st ∧ st.out = some c ∧ StepRel sc st

/-- both maxima move to the next column, or both stay: a real score is at least 16, `UNMATCHED` has score 0 -/
theorem Acc.step {ss : List ScoreCell} {P : List NStep} {ib : Option (Nat × ScoreCell)} {nb : Option Cell}
    (acc : Acc ss P ib nb) {i : Nat} {sc : ScoreCell} {st : NStep} (h1 : ss[i]? = some sc) (h2 : P[i]? = some st) (hst : StepRel sc st)
    (xs : List ScoreCell) (l : List (Option Cell)) :
    ∃ ib' nb', maxByScore (sc :: xs) i ib = maxByScore xs (i + 1) ib' ∧ bestCell (st.out :: l) nb = bestCell l nb' ∧
      Acc ss P ib' nb' := by
  have hrel := hst.1
  cases hout : st.out with
  | none =>
    rw [hout] at hrel
    have hsc : sc.score = 0 := by rw [show sc = UNMATCHED from hrel]; rfl
    rcases acc with ⟨rfl, hib⟩ | ⟨c, e, scb, stb, rfl, rfl, g1, g2, g3, g4⟩
    · exact ⟨some (i, sc), none, maxByScore_cons_ge _ _ _ _ (fun b hb => by rw [hib b hb]; exact Nat.zero_le _), rfl,
        Or.inl ⟨rfl, fun x hx => by cases hx; exact hsc⟩⟩
    · have h16 : 16 ≤ scb.score := by have := g4.1; rw [g3] at this; rw [this.1]; exact this.2.2.1
      exact ⟨some (e, scb), some c, maxByScore_cons_lt _ _ _ _ (by rw [hsc]; show ¬ 0 ≥ scb.score; omega), rfl,
        Or.inr ⟨c, e, scb, stb, rfl, rfl, g1, g2, g3, g4⟩⟩
  | some c' =>
    rw [hout] at hrel
    have hnew : Acc ss P (some (i, sc)) (some c') := Or.inr ⟨c', i, sc, st, rfl, rfl, h1, h2, hout, hst⟩
    rcases acc with ⟨rfl, hib⟩ | ⟨c, e, scb, stb, rfl, rfl, g1, g2, g3, g4⟩
    · exact ⟨_, _, maxByScore_cons_ge _ _ _ _ (fun b hb => by rw [hib b hb]; exact Nat.zero_le _), rfl, hnew⟩
    · have hs0 : scb.score = c.score := by have := g4.1; rw [g3] at this; exact this.1
      by_cases hge : c'.score ≥ c.score
      · exact ⟨_, _, maxByScore_cons_ge _ _ _ _ (fun b hb => by cases hb; rw [hrel.1, hs0]; exact hge),
          by simp only [bestCell, hge, if_true], hnew⟩
      · exact ⟨some (e, scb), some c, maxByScore_cons_lt _ _ _ _ (by rw [hrel.1, hs0]; exact hge),
          by simp only [bestCell, hge, if_false], Or.inr ⟨c, e, scb, stb, rfl, rfl, g1, g2, g3, g4⟩⟩

theorem maxByScore_spec {ss : List ScoreCell} {P : List NStep} (h : All2 StepRel ss P) :
    ∀ (k i : Nat) (ib : Option (Nat × ScoreCell)) (nb : Option Cell), i + k = ss.length → Acc ss P ib nb →
      Acc ss P (maxByScore (ss.drop i) i ib) (bestCell ((P.drop i).map NStep.out) nb) := by
  have hl := h.length_eq
  intro k
  induction k with
  | zero =>
    intro i ib nb hi acc
    rw [List.drop_eq_nil_of_le (by omega), List.drop_eq_nil_of_le (by omega)]
    exact acc
  | succ k ih =>
    intro i ib nb hi acc
    have h1 : i < ss.length := by omega
    have h2 : i < P.length := by omega
    obtain ⟨ib', nb', e1, e2, acc'⟩ := acc.step (List.getElem?_eq_getElem h1) (List.getElem?_eq_getElem h2)
      (h.get i _ _ (List.getElem?_eq_getElem h1) (List.getElem?_eq_getElem h2)) (ss.drop (i + 1))
      ((P.drop (i + 1)).map NStep.out)
    rw [List.drop_eq_getElem_cons h1, List.drop_eq_getElem_cons h2, List.map_cons, e1, e2]
    exact ih (i + 1) ib' nb' (by omega) acc'

theorem traceGoA_eq (cells : List MatrixCell) (width : Nat) (offs : List Nat) (start : Nat) : ∀ (fuel : Nat) (t : TState),
    traceGoA cells.toArray width offs start fuel t = traceGo cells width offs start fuel t := by
  intro fuel
  induction fuel with
  | zero => intro t; rfl
  | succ fuel ih =>
    intro t
    have hg : ∀ i, cells.toArray.getD i default = cells.getD i default := by
      intro i
      rw [Array.getD_eq_getD_getElem?, List.getD_eq_getElem?_getD, List.getElem?_toArray]
    simp only [traceGoA, traceGo, hg, List.size_toArray]
    split
    · split
      · rfl
      · exact ih _
    · exact ih _

/-- the best cell of the last row `i + 1` is the best cell of the recurrence's last row, and it came from the source its
    `matched` flag names: that is where the traceback starts, in row `i` -/
theorem best_spec (c : Ctx) (g : Good c) (clen i : Nat) (hi : i + 2 = c.n.length) (s : PState) (inv : Inv c clen (i + 1) s) :
    ∃ (e : Nat) (sc : ScoreCell) (cb : Cell) (src : List Nat) (x : Col),
      maxByScore (s.cur.drop (c.so (i + 1) - (i + 1))) 0 none = some (e, sc) ∧
      s.cur.getD (e + (c.so (i + 1) - (i + 1))) default = sc ∧
      bestCell (c.row (i + 1)) none = some cb ∧ sc.score = cb.score ∧
      c.cols[c.so (i + 1) + e]? = some x ∧ cb.path = src ++ [x.idx] ∧
      At c i (e + (c.so (i + 1) - c.so i) - 1) sc.matched src := by
  have hi1 : i + 1 < c.n.length := hi ▸ Nat.lt_succ_self (i + 1)
  have hlo := g.le_so hi1
  have hlink := g.hlink i hi1
  -- the last row of the recurrence, from its offset on, and the score row over the same columns
  generalize hP : (c.steps i).drop (c.so (i + 1) - 1 - c.ro i) = P at hlink
  have hPlen : c.width - (c.so (i + 1) - (i + 1)) = P.length := by
    have := g.width_add
    have := steps_drop_length c g i hi1
    rw [← hP]
    show _ = ((c.steps i).drop (c.gap i)).length
    omega
  have hrow := inv.hrow
  rw [Nat.add_sub_cancel, hP, hPlen, List.take_length] at hrow
  have hbest : bestCell (c.row (i + 1)) none = bestCell (P.map NStep.out) none := by
    conv => lhs; rw [← List.take_append_drop (c.so (i + 1)) (c.row (i + 1)), g.hnone _ hi1, hlink]
    exact bestCell_nones _ _ _
  have acc := maxByScore_spec hrow _ 0 none none (Nat.zero_add _) (Or.inl ⟨rfl, fun x hx => by cases hx⟩)
  rw [List.drop_zero, List.drop_zero, ← hbest] at acc
  rcases acc with ⟨hnb, _⟩ | ⟨cb, e, sc, st, hnb, hib, g1, g2, g3, g4⟩
  · -- the recurrence has a cell at the row's offset
    obtain ⟨cc, hcc⟩ := g.hsome (i + 1) hi1
    have := bestCell_isSome (c.row (i + 1)) none (Or.inr ⟨c.so (i + 1), by unfold cellAt; rw [hcc]⟩)
    rw [hnb] at this
    cases this
  · obtain ⟨he, _⟩ := List.getElem?_eq_some_iff.mp g2
    rw [← hP, List.getElem?_drop] at g2
    rw [List.getElem?_drop, Nat.add_comm] at g1
    obtain ⟨src, x, hx, hpath, a⟩ := At.of_pred g (Nat.le_of_eq hi) (by omega) sc.matched st cb g2 (g4.2 cb g3)
    have hrel := g4.1
    rw [g3] at hrel
    have hget : s.cur.getD (e + (c.so (i + 1) - (i + 1))) default = sc := by rw [List.getD_eq_getElem?_getD, g1]; rfl
    exact ⟨e, sc, cb, src, x, hib, hget, hnb, hrel.1, hx, hpath, a⟩

/-- `s.cells.take s.off` is the `matrix_cells[..matrix_len]` the traceback is given -/
theorem Inv.take_cells {c : Ctx} (g : Good c) {clen i : Nat} (hi : i + 2 = c.n.length) {s : PState}
    (inv : Inv c clen (i + 1) s) (hclen : c.seg (i + 1) ≤ clen) :
    (s.cells.take s.off).length = c.seg (c.n.length - 1) ∧ ∀ r, r + 2 ≤ c.n.length → RowFacts c r (s.cells.take s.off) := by
  refine ⟨by rw [List.length_take, inv.hoff, inv.hcells, Nat.min_eq_left hclen, ← hi]; rfl, ?_⟩
  intro r hr
  have hri : r < i + 1 := by omega
  apply rowFacts_frame c g r (i + 1) hri (hi ▸ Nat.lt_succ_self (i + 1)) s.cells _ _ (inv.hfacts r hri)
  intro k hk
  rw [List.getD_eq_getElem?_getD, List.getD_eq_getElem?_getD, List.getElem?_take]
  simp only [show k < s.off by rw [inv.hoff]; exact hk, if_true]

theorem finish_spec (c : Ctx) (g : Good c) (start clen i : Nat) (hi : i + 2 = c.n.length) (s : PState)
    (inv : Inv c clen (i + 1) s) (hclen : c.seg (i + 1) ≤ clen) (hidx : ∀ j x, c.cols[j]? = some x → x.idx = start + j) :
    finish c.cols.length c.n.length start c.offs s = (bestCell (c.row (i + 1)) none).map (fun x => (x.score, x.path)) := by
  obtain ⟨e, sc, cb, src, x, hmax, hsc, hbest, hscore, hx, hpath, a⟩ := best_spec c g clen i hi s inv
  obtain ⟨hlen, hfacts⟩ := inv.take_cells g hi hclen
  have tr := trace_spec c g start (s.cells.take s.off) hlen hidx hfacts (c.cols.length + c.n.length + 1) i _ sc.matched
    [start + e + c.so (i + 1)] src a (a.fuel_lt g)
  have hlast : i + 2 - 1 = i + 1 := rfl
  have hprev : i + 2 - 2 = i := rfl
  have hrel : c.so (i + 1) + 1 - (i + 2) = c.so (i + 1) - (i + 1) := Nat.add_sub_add_right ..
  have hwidth : c.cols.length + 1 - (i + 2) = c.width := by rw [hi]; rfl
  unfold finish
  rw [← hi]
  simp only [hlast, hprev, Ctx.offs_getD, hrel, hmax, hsc, traceGoA_eq]
  rw [hwidth, hi, tr, hbest, Option.map_some, hpath, hidx _ x hx, hscore, Nat.add_assoc, Nat.add_comm e]

theorem optimalImpl_ctx (cfg : Cfg) (c : Ctx) (g : Good c) (start : Nat)
    (hoffs : rowOffs c.n c.cols = c.offs) (hpb : prefix_bonus_init cfg.preferPrefix start = c.pb)
    (hidx : ∀ j x, c.cols[j]? = some x → x.idx = start + j)
    (cur0 : List ScoreCell) (cells0 : List MatrixCell) (hcur : cur0.length = c.width)
    (hcells : c.width * c.n.length ≤ cells0.length) :
    optimalImpl cfg c.cols c.n start cur0 cells0 =
      (bestCell (c.row (c.n.length - 1)) none).map (fun x => (x.score, x.path)) := by
  obtain ⟨n0, n1, ns, hn⟩ := g.needle
  obtain ⟨i, hi⟩ : ∃ i, i + 2 = c.n.length := ⟨ns.length, by rw [hn]; rfl⟩
  have hseg := seg_last_le c g hcells
  have inv := populate_run c g hn cur0 cells0 hcur hseg
  have hlast : c.n.length - 1 = i + 1 := by omega
  rw [hlast] at hseg inv ⊢
  have fin := finish_spec c g start cells0.length i hi _ inv hseg hidx
  unfold optimalImpl
  rw [hn]
  simp only [← hn, hoffs, hpb, g.hlen, ne_eq, not_true_eq_false, if_false]
  exact fin

end NucleoVerif.OptImpl
