import NucleoVerif.Lemmas.OptCells
import NucleoVerif.Lemmas.DPWindow
/-! The two column loops of `score_row` in lockstep with one row of the recurrence, which is unrolled into one record
(`NStep`) per column: `phase2_spec`, `phases_spec`. -/
namespace NucleoVerif.OptImpl
open NucleoVerif NucleoVerif.Gen NucleoVerif.Gen.Opt NucleoVerif.DP

/-- what the recurrence does at one column of the row loop: `m` = M(i,j), carry in (`prevM` = M(i,j-1), `pin` = P(i,j-1)),
    `p'` = P(i,j), `col` = column j+1, `out` = M(i+1,j+1) -/
structure NStep where
  m : Option Cell
  prevM : Option Cell
  pin : Option PCell
  col : Col
  nnc : Nat

def NStep.p' (s : NStep) : Option PCell := pScore s.prevM s.pin
def NStep.out (s : NStep) : Option Cell := if s.col.ch = s.nnc then nextM s.p' s.col.bonus s.m s.col.idx else none

/-- `ms`: the row's cells from some column `j₀` on, `cs`: the columns from `j₀ + 1` on; record `t` has `m` at column
    `j₀ + t` and `col`, `out` at `j₀ + t + 1` -/
def nsteps (nnc : Nat) : List (Option Cell) → List Col → Option Cell → Option PCell → List NStep
  | m :: ms, c1 :: cs, prevM, p => ⟨m, prevM, p, c1, nnc⟩ :: nsteps nnc ms cs m (pScore prevM p)
  | _, _, _, _ => []

theorem zipGo_eq_nsteps (nnc : Nat) (ms : List (Option Cell)) (cs : List Col) (prevM : Option Cell) (p : Option PCell) :
    zipGo nnc ms cs prevM p = (nsteps nnc ms cs prevM p).map NStep.out := by
  induction ms generalizing cs prevM p with
  | nil => rfl
  | cons m ms ih => cases cs with
    | nil => rfl
    | cons c cs => exact congrArg (_ :: ·) (ih cs m _)

theorem nsteps_length (nnc : Nat) (ms : List (Option Cell)) (cs : List Col) (prevM : Option Cell) (p : Option PCell) :
    (nsteps nnc ms cs prevM p).length = min ms.length cs.length := by
  rw [← zipGo_length nnc ms cs prevM p, zipGo_eq_nsteps, List.length_map]

/-- the loops' carry holds the scores of M(i,j-1) and P(i,j-1), 0 standing for "no cell" -/
def CarryRel (k : Carry) (prevM : Option Cell) (p : Option PCell) : Prop :=
  k.p = ps0 p ∧ k.m = sc0 prevM ∧ (∀ c, prevM = some c → 16 ≤ c.score)

theorem CarryRel.p_score_fst {k : Carry} {prevM : Option Cell} {p : Option PCell} (h : CarryRel k prevM p) :
    (p_score k.p k.m).1 = ps0 (pScore prevM p) := by
  rw [h.1, h.2.1]; exact OptImpl.p_score_fst prevM p

theorem CarryRel.step {k : Carry} {prevM : Option Cell} {p : Option PCell} (h : CarryRel k prevM p) (sc : ScoreCell) (m : Option Cell)
    (hrel : CellRel sc m) (pb : Nat) :
    CarryRel ⟨(p_score k.p k.m).1, sc.score, pb⟩ m (pScore prevM p) :=
  ⟨h.p_score_fst, hrel.score_eq, fun _ hc => by subst hc; exact hrel.2.2.1⟩

theorem _root_.NucleoVerif.Gen.Opt.MatrixCell.get_set (a b : Bool) : (MatrixCell.set a b).get false = a ∧ (MatrixCell.set a b).get true = b := by
  cases a <;> cases b <;> decide

/-- what a recorded back-pointer cell says about the recurrence at its column (a pair, to go with `All2` over a `zip`) -/
def FlagRel (f : MatrixCell) (x : ScoreCell × NStep) : Prop :=
  f.get true = x.1.matched ∧ ppath x.2.p' = (if f.get false then mpath x.2.prevM else ppath x.2.pin)

theorem CarryRel.flagRel {k : Carry} {prevM : Option Cell} {p : Option PCell} (h : CarryRel k prevM p) (sc : ScoreCell)
    (m : Option Cell) (c1 : Col) (nnc : Nat) :
    FlagRel (MatrixCell.set (p_score k.p k.m).2 sc.matched) (sc, ⟨m, prevM, p, c1, nnc⟩) := by
  refine ⟨(MatrixCell.get_set _ _).2, ?_⟩
  rw [(MatrixCell.get_set _ _).1, h.1, h.2.1]
  exact p_score_snd prevM p h.2.2

/-- the first-row cells `score_row::<FIRST_ROW>` computes for a run of columns, in place of the stored ones -/
def fstCells (nc : Nat) : List Col → Nat → List ScoreCell → List ScoreCell
  | c :: cs, pb, _ :: cur => (if c.ch = nc then first_row_cell c.bonus pb else UNMATCHED) :: fstCells nc cs (prefix_bonus_next pb) cur
  | _, _, cur => cur

/-- the current row's cells as the loops see them (`mCell`) -/
def eff (first : Bool) (nc : Nat) (cols : List Col) (pb : Nat) (cur : List ScoreCell) : List ScoreCell :=
  if first then fstCells nc cols pb cur else cur

theorem eff_cons (first : Bool) (nc : Nat) (c : Col) (cs : List Col) (pb : Nat) (sc : ScoreCell) (cur : List ScoreCell) :
    eff first nc (c :: cs) pb (sc :: cur) = mCell first nc c pb sc :: eff first nc cs (prefix_bonus_next pb) cur := by
  cases first <;> rfl

theorem eff_nil (first : Bool) (nc : Nat) (cols : List Col) (pb : Nat) : eff first nc cols pb [] = [] := by
  cases first
  · rfl
  · cases cols <;> rfl

theorem fstCells_length (nc : Nat) (cols : List Col) (pb : Nat) (cur : List ScoreCell) :
    (fstCells nc cols pb cur).length = cur.length := by
  induction cols generalizing pb cur with
  | nil => rfl
  | cons c cs ih => cases cur with
    | nil => rfl
    | cons _ cur => exact congrArg (· + 1) (ih _ cur)

theorem eff_length (first : Bool) (nc : Nat) (cols : List Col) (pb : Nat) (cur : List ScoreCell) :
    (eff first nc cols pb cur).length = cur.length := by
  cases first
  · rfl
  · exact fstCells_length ..

theorem fstCells_rel (nc : Nat) : ∀ (cur : List ScoreCell) (cols : List Col) (pb : Nat), cur.length ≤ cols.length →
    (∀ c ∈ cols, c.bonus < 256) →
    All2 CellRel (fstCells nc cols pb cur) ((firstRow nc cols pb).take cur.length) := by
  intro cur
  induction cur with
  | nil => intro cols pb _ _; cases cols <;> trivial
  | cons sc cur ih =>
    intro cols pb h hb
    cases cols with
    | nil => exact absurd h (Nat.not_succ_le_zero _)
    | cons c cols =>
      refine ⟨?_, ih cols _ (Nat.le_of_succ_le_succ h) (fun x hx => hb x (List.mem_cons_of_mem _ hx))⟩
      by_cases hc : c.ch = nc
      · simp only [hc, if_true]
        exact ⟨rfl, rfl, Nat.le_trans (Nat.le_add_left 16 _) (Nat.le_add_right _ _), hb c (List.mem_cons_self ..)⟩
      · simp only [hc, if_false, CellRel]

/-- a cell of the next row stands for the recurrence's cell, and its `matched` flag tells where its alignment came from -/
def StepRel (sc : ScoreCell) (st : NStep) : Prop :=
  CellRel sc st.out ∧ ∀ c, st.out = some c → some c.path = (if sc.matched then mpath st.m else ppath st.p').map (· ++ [st.col.idx])

/-- some alignment of the current row ends at or before the `d`-th column from here.  Without it the code's cell for a
    matching character (built from the zero scores of `UNMATCHED`) would stand for no cell of the recurrence. -/
def Live (d : Nat) (prevM : Option Cell) (p : Option PCell) (ms : List (Option Cell)) : Prop :=
  prevM.isSome = true ∨ p.isSome = true ∨ ∃ t c, t ≤ d ∧ ms[t]? = some (some c)

theorem Live.here {prevM : Option Cell} {p : Option PCell} {m : Option Cell} {ms : List (Option Cell)}
    (h : Live 0 prevM p (m :: ms)) :
    m.isSome = true ∨ (pScore prevM p).isSome = true := by
  rcases h with h | h | ⟨t, c, ht, h⟩
  · exact Or.inr (by rw [pScore_isSome, h]; rfl)
  · exact Or.inr (by rw [pScore_isSome, h, Bool.or_true])
  · obtain rfl : t = 0 := Nat.le_zero.mp ht
    exact Or.inl (by rw [Option.some.inj h]; rfl)

theorem Live.step {d : Nat} {prevM : Option Cell} {p : Option PCell} {m : Option Cell} {ms : List (Option Cell)}
    (h : Live d prevM p (m :: ms)) :
    Live (d - 1) m (pScore prevM p) ms := by
  rcases h with h | h | ⟨t, c, ht, h⟩
  · exact Or.inr (Or.inl (by rw [pScore_isSome, h]; rfl))
  · exact Or.inr (Or.inl (by rw [pScore_isSome, h, Bool.or_true]))
  · cases t with
    | zero => exact Or.inl (by rw [Option.some.inj h]; rfl)
    | succ t => exact Or.inr (Or.inr ⟨t, c, Nat.le_sub_of_add_le ht, h⟩)

theorem CarryRel.stepRel {k : Carry} {prevM : Option Cell} {p : Option PCell} (hk : CarryRel k prevM p) (sc : ScoreCell) (m : Option Cell)
    (hrel : CellRel sc m) (c1 : Col) (nnc : Nat) (hb : c1.bonus < 256) (hl : m.isSome = true ∨ (pScore prevM p).isSome = true) :
    StepRel (if c1.ch = nnc then next_m_cell (p_score k.p k.m).1 c1.bonus sc else UNMATCHED) ⟨m, prevM, p, c1, nnc⟩ := by
  unfold StepRel NStep.out NStep.p'
  by_cases hch : c1.ch = nnc
  · obtain ⟨c, e1, e2, e3⟩ := next_m_cell_spec sc m (pScore prevM p) c1.bonus c1.idx hrel hl hb
    simp only [hch, if_true]
    rw [hk.p_score_fst, e1]
    exact ⟨e2, fun c' hc' => by cases hc'; exact e3⟩
  · simp only [hch, if_false]
    exact ⟨rfl, fun c hc => nomatch hc⟩

theorem phase2_spec (first : Bool) (nc nnc : Nat) : ∀ (cur : List ScoreCell) (ms : List (Option Cell)) (c0 : Col) (cs : List Col)
    (cells : List MatrixCell) (k : Carry) (prevM : Option Cell) (p : Option PCell),
    All2 CellRel (eff first nc (c0 :: cs) k.pb cur) (ms.take cur.length) → cur.length ≤ cs.length →
    cur.length ≤ cells.length → CarryRel k prevM p → Live 0 prevM p ms → (∀ c ∈ cs, c.bonus < 256) →
    All2 StepRel (phase2 first nc nnc (c0 :: cs) cur cells k).1 ((nsteps nnc ms cs prevM p).take cur.length) ∧
    All2 FlagRel ((phase2 first nc nnc (c0 :: cs) cur cells k).2.take cur.length)
      ((eff first nc (c0 :: cs) k.pb cur).zip (nsteps nnc ms cs prevM p)) := by
  intro cur
  induction cur with
  | nil =>
    intro ms c0 cs cells k prevM p _ _ _ _ _ _
    rw [eff_nil]
    cases cs with
    | nil => exact ⟨trivial, trivial⟩
    | cons _ _ => exact ⟨trivial, trivial⟩
  | cons sc cur ih =>
    intro ms c0 cs cells k prevM p hrel hl2 hl3 hk hlive hb
    obtain ⟨c1, cs, rfl⟩ := List.exists_cons_of_length_pos (Nat.lt_of_lt_of_le (Nat.succ_pos _) hl2)
    obtain ⟨mc, cells, rfl⟩ := List.exists_cons_of_length_pos (Nat.lt_of_lt_of_le (Nat.succ_pos _) hl3)
    cases ms with
    | nil => rw [eff_cons] at hrel; cases hrel
    | cons m ms =>
      rw [eff_cons] at hrel ⊢
      have hk' := hk.step _ m hrel.1 (prefix_bonus_next k.pb)
      have := ih ms c1 cs cells _ m (pScore prevM p) hrel.2 (Nat.le_of_succ_le_succ hl2) (Nat.le_of_succ_le_succ hl3) hk' hlive.step
        (fun c hc => hb c (List.mem_cons_of_mem _ hc))
      exact ⟨⟨hk.stepRel _ m hrel.1 c1 nnc (hb c1 (List.mem_cons_self ..)) hlive.here, this.1⟩,
        ⟨hk.flagRel _ m c1 nnc, this.2⟩⟩

/-- both loops of `score_row`: the first (`skipped_col_iter`) over the `d` columns where the next row has no cell yet,
    then the second from the carry it leaves; `ms` and `c0 :: cs` are the recurrence's current row and its columns from the
    row's offset on -/
theorem phases_spec (first : Bool) (nc nnc : Nat) : ∀ (d : Nat) (cur : List ScoreCell) (ms : List (Option Cell)) (c0 : Col)
    (cs : List Col) (cells : List MatrixCell) (k : Carry) (prevM : Option Cell) (p : Option PCell),
    d ≤ cur.length → All2 CellRel (eff first nc (c0 :: cs) k.pb cur) (ms.take cur.length) → cur.length ≤ cs.length →
    cur.length ≤ cells.length → CarryRel k prevM p → Live d prevM p ms → (∀ c ∈ cs, c.bonus < 256) →
    let A := phase1 first nc ((c0 :: cs).take d) (cur.take d) cells k
    let B := phase2 first nc nnc ((c0 :: cs).drop d) (cur.drop d) (A.1.drop d) A.2
    All2 StepRel B.1 (((nsteps nnc ms cs prevM p).drop d).take (cur.length - d)) ∧
    All2 FlagRel ((A.1.take d ++ B.2).take cur.length) ((eff first nc (c0 :: cs) k.pb cur).zip (nsteps nnc ms cs prevM p)) := by
  intro d
  induction d with
  | zero =>
    -- `take 0`, `drop 0` and `- 0` reduce, so the statement is that of `phase2_spec`
    intro cur ms c0 cs cells k prevM p _
    exact phase2_spec first nc nnc cur ms c0 cs cells k prevM p
  | succ d ih =>
    intro cur ms c0 cs cells k prevM p hd hrel hl2 hl3 hk hlive hb
    obtain ⟨sc, cur, rfl⟩ := List.exists_cons_of_length_pos (Nat.lt_of_lt_of_le (Nat.succ_pos _) hd)
    obtain ⟨c1, cs, rfl⟩ := List.exists_cons_of_length_pos (Nat.lt_of_lt_of_le (Nat.succ_pos _) hl2)
    obtain ⟨mc, cells, rfl⟩ := List.exists_cons_of_length_pos (Nat.lt_of_lt_of_le (Nat.succ_pos _) hl3)
    cases ms with
    | nil => rw [eff_cons] at hrel; cases hrel
    | cons m ms =>
      rw [eff_cons] at hrel ⊢
      have hk' := hk.step _ m hrel.1 (prefix_bonus_next k.pb)
      have := ih cur ms c1 cs cells _ m (pScore prevM p) (Nat.le_of_succ_le_succ hd) hrel.2 (Nat.le_of_succ_le_succ hl2)
        (Nat.le_of_succ_le_succ hl3) hk' hlive.step (fun c hc => hb c (List.mem_cons_of_mem _ hc))
      simp only [List.take_succ_cons, List.drop_succ_cons, phase1, nsteps, List.length_cons, Nat.add_sub_add_right,
        List.cons_append, List.zip_cons_cons]
      exact ⟨this.1, hk.flagRel _ m c1 nnc, this.2⟩

end NucleoVerif.OptImpl
