import NucleoVerif.Lemmas.SortBase
open Std.Do
namespace NucleoVerif.PS
open Gen
set_option mvcgen.warning false
variable {α : Type} [Inhabited α] {a0 : Array α} (lt : α → α → Bool)

/-- invariant of the `shift_tail` loop: the moving element sits at `i`; without it the segment is in order, and nothing
    to its right is smaller.  `npre`/`nsuf` are the numbers of iterations done and left: either the loop has stopped
    (`nsuf = 0`) with a left neighbour that is not greater, or the element has moved once in every iteration. -/
structure STInv (lo hi : Nat) (a : Array α) (i : Nat) (b : Array α) (npre nsuf : Nat) : Prop where
  frame : Frame lo hi a b
  lo_le : lo ≤ i
  lt_hi : i < hi
  rest : ∀ p q, lo ≤ p → p < q → q < hi → p ≠ i → q ≠ i → lt (at' b q) (at' b p) = false
  right : ∀ q, i < q → q < hi → lt (at' b q) (at' b i) = false
  count : (nsuf = 0 ∧ ∀ j, lo ≤ j → j + 1 = i → lt (at' b i) (at' b j) = false) ∨ i + npre + 1 = hi

theorem STInv.init (lo hi : Nat) (a : Array α) (h2 : hi - lo ≥ 2) (hs : Sorted lt lo (hi - 1) a) (n : Nat) :
    STInv lt lo hi a (hi - 1) a 0 n := by
  have hi1 : hi - 1 < hi := by omega
  refine ⟨Frame.refl _ _ _, by omega, hi1, ?_, ?_, Or.inr (by omega)⟩
  · intro p q h1 h3 h4 h5 h6; exact hs p q h1 h3 (by omega)
  · intro q h1 h3; omega

theorem STInv.step (h : SWO lt) (lo hi : Nat) (a b : Array α) (i npre nsuf : Nat) (hsz : hi ≤ a.size)
    (inv : STInv lt lo hi a i b npre (nsuf + 1)) (hi1 : i > lo) (hlt : lt (at' b i) (at' b (i - 1)) = true) :
    STInv lt lo hi a (i - 1) (b.swapIfInBounds i (i - 1)) (npre + 1) nsuf := by
  obtain ⟨j, rfl⟩ : ∃ j, i = j + 1 := ⟨i - 1, by omega⟩
  rw [Nat.add_sub_cancel] at hlt ⊢
  obtain ⟨f, h1, h2, h3, h4, h5⟩ := inv
  have hj1 : lo ≤ j := Nat.le_of_lt_succ hi1
  have hj2 : j < hi := Nat.lt_of_succ_lt h2
  have hb : hi ≤ b.size := by rw [f.size]; exact hsz
  have hbi : j + 1 < b.size := Nat.lt_of_lt_of_le h2 hb
  have hbj : j < b.size := Nat.lt_of_lt_of_le hj2 hb
  have hne : j ≠ j + 1 := Nat.ne_of_lt (Nat.lt_succ_self j)
  refine ⟨f.trans (Frame.swap lo hi b (j + 1) j h1 h2 hj1 hj2), hj1, hj2, ?_, ?_, Or.inr (by omega)⟩
  · -- the old neighbour `b[j]` now sits at `j + 1`; the other positions are untouched
    intro p q hp hpq hq hpj hqj
    by_cases eq : q = j + 1
    · have hpj' : p < j := by omega
      rw [eq, at_swap_left b (j + 1) j hbi hbj, at_swap_ne b hbi hbj (Nat.ne_of_lt (eq ▸ hpq)) hpj]
      exact h3 p j hp hpj' hj2 (Nat.ne_of_lt (eq ▸ hpq)) hne
    · by_cases ep : p = j + 1
      · rw [ep, at_swap_left b (j + 1) j hbi hbj, at_swap_ne b hbi hbj eq hqj]
        exact h3 j q hj1 (by omega) hq hne eq
      · rw [at_swap_ne b hbi hbj ep hpj, at_swap_ne b hbi hbj eq hqj]
        exact h3 p q hp hpq hq ep eq
  · intro q hq1 hq2
    rw [at_swap_right b (j + 1) j hbi hbj]
    by_cases eq : q = j + 1
    · rw [eq, at_swap_left b (j + 1) j hbi hbj]; exact h.asym _ _ hlt
    · rw [at_swap_ne b hbi hbj eq (Nat.ne_of_gt hq1)]; exact h4 q (by omega) hq2

theorem STInv.exit (h : SWO lt) (lo hi : Nat) (a b : Array α) (i npre : Nat)
    (inv : STInv lt lo hi a i b npre 0) (hn : npre = hi - lo) : Frame lo hi a b ∧ Sorted lt lo hi b := by
  obtain ⟨f, h1, h2, h3, h4, h5⟩ := inv
  refine ⟨f, ?_⟩
  rcases h5 with ⟨_, h5⟩ | h5
  · intro p q hp hpq hq
    by_cases e1 : q = i
    · -- `p` lies left of the moving element: compare through its left neighbour `j`
      subst e1
      obtain ⟨j, rfl⟩ : ∃ j, q = j + 1 := ⟨q - 1, by omega⟩
      have hj := h5 j (Nat.le_trans hp (Nat.le_of_lt_succ hpq)) rfl
      by_cases e2 : p = j
      · rw [e2]; exact hj
      · have hpj := h3 p j hp (by omega) (Nat.lt_of_succ_lt hq) (Nat.ne_of_lt hpq) (Nat.ne_of_lt (Nat.lt_succ_self j))
        exact h.le_trans _ _ _ hpj hj
    · by_cases e2 : p = i
      · subst e2; exact h4 q hpq hq
      · exact h3 p q hp hpq hq e2 e1
  · omega -- `hi - lo` moves without a `break` would have carried the element to the left of `lo`

theorem STInv.brk (lo hi : Nat) (a b : Array α) (i npre nsuf : Nat)
    (inv : STInv lt lo hi a i b npre (nsuf + 1)) (hc : ¬ (i > lo ∧ lt (at' b i) (at' b (i - 1)) = true)) (n : Nat) :
    STInv lt lo hi a i b n 0 := by
  refine { inv with count := Or.inl ⟨rfl, fun j hj e => ?_⟩ }
  subst e
  cases hl : lt (at' b (j + 1)) (at' b j) with
  | false => rfl
  | true => exact absurd ⟨Nat.lt_succ_of_le hj, hl⟩ hc

theorem shiftTail_spec (h : SWO lt) (lo hi : Nat) (a : Array α) :
   ⦃fun s => ⌜s.val = a ∧ hi ≤ a.size ∧ Sorted lt lo (hi - 1) a⌝⦄
   (shiftTail (a0 := a0) lt lo hi)
   ⦃⇓ _ s => ⌜Frame lo hi a s.val ∧ Sorted lt lo hi s.val⌝⦄ := by
  mvcgen -trivial -leave [shiftTail, rd_spec, swp_spec]
  case inv1 => exact ⇓ ⟨xs, i⟩ s => ⌜STInv lt lo hi a i s.val xs.prefix.length xs.suffix.length⌝
  case vc1 => -- the left neighbour is greater: the element moves one place
    rename_i h2 _ s1 hpre pref cur suff hsplit b s hinv hc i
    refine SPred.pure_intro ?_
    rw [List.length_append]
    exact STInv.step lt h lo hi a s.val b _ _ hpre.2.1 hinv hc.1 hc.2
  case vc2 => -- it is not, or `lo` is reached: `break`
    rename_i h2 _ s1 hpre pref cur suff hsplit b s hinv hc
    exact SPred.pure_intro (STInv.brk lt lo hi a s.val b _ _ hinv hc _)
  case vc3 => -- on entry the moving element is the last one
    rename_i h2 _ s hpre
    obtain ⟨rfl, hsz, hs⟩ := hpre
    exact SPred.pure_intro (STInv.init lt lo hi _ h2 hs _)
  case vc4 => -- after the loop
    rename_i h2 _ s1 hpre r s hinv
    exact SPred.pure_intro (STInv.exit lt h lo hi a s.val r _ hinv (range_length 0 _))
  case vc5 => -- fewer than two elements: nothing is done
    rename_i h2 s hpre
    exact SPred.pure_intro ⟨hpre.1 ▸ Frame.refl _ _ _, fun i j _ _ _ => by omega⟩

theorem insertionSort_spec (h : SWO lt) (lo hi : Nat) (a : Array α) :
   ⦃fun s => ⌜s.val = a ∧ hi ≤ a.size⌝⦄
   (insertionSort (a0 := a0) lt lo hi)
   ⦃⇓ _ s => ⌜Frame lo hi a s.val ∧ Sorted lt lo hi s.val⌝⦄ := by
  have hST := shiftTail_spec (a0 := a0) lt h
  mvcgen -trivial -leave [insertionSort, hST]
  case inv1 => exact ⇓ ⟨xs, _⟩ s => ⌜Frame lo hi a s.val ∧ Sorted lt lo (lo + 1 + xs.prefix.length) s.val⌝
  case vc1 => -- the precondition of `shiftTail` on `v[lo .. lo + cur + 1)`
    rename_i s1 hpre pref cur suff hsplit b s hinv
    have hr := range_split hsplit
    have hsz : s.val.size = a.size := hinv.1.size
    have e : lo + cur + 1 - 1 = lo + 1 + pref.length := by rw [Nat.add_sub_cancel, hr.1, Nat.add_assoc]
    have hcur : lo + cur + 1 ≤ hi := Nat.add_lt_of_lt_sub' (range_split_bounds hsplit).2
    exact SPred.pure_intro ⟨rfl, hsz ▸ Nat.le_trans hcur hpre.2, e ▸ hinv.2⟩
  case vc2 => -- which has extended the sorted prefix by one element
    rename_i s1 hpre pref cur suff hsplit b s2 hinv r s hpost
    have hr := range_split hsplit
    refine SPred.pure_intro ⟨hinv.1.trans (hpost.1.mono (Nat.le_refl _) (by omega)), ?_⟩
    simp only [List.length_append, List.length_singleton]
    have e : lo + 1 + (pref.length + 1) = lo + cur + 1 := by omega
    rw [e]; exact hpost.2
  case vc3 => -- on entry: one element is sorted
    rename_i s hpre
    exact SPred.pure_intro ⟨hpre.1 ▸ Frame.refl _ _ _, fun i j _ _ (h3 : j < lo + 1) => by omega⟩
  case vc4 => -- after the loop the prefix is the slice
    rename_i s1 hpre r s hinv
    have hs := hinv.2
    simp only [range_length] at hs
    exact SPred.pure_intro ⟨hinv.1, fun i j h1 h2 h3 => hs i j h1 h2 (by omega)⟩

theorem shiftHead_spec (lo hi : Nat) (a : Array α) :
   ⦃fun s => ⌜s.val = a⌝⦄ (shiftHead (a0 := a0) lt lo hi) ⦃⇓ _ s => ⌜Frame lo hi a s.val⌝⦄ := by
  mvcgen -trivial -leave [shiftHead, rd_spec, swp_spec]
  case inv1 => exact ⇓ ⟨xs, i⟩ s => ⌜Frame lo hi a s.val ∧ lo ≤ i⌝
  case vc1 => -- the swap with the right neighbour
    rename_i s hinv hc i
    have fs := Frame.swap lo hi s.val _ _ hinv.2 (Nat.lt_of_succ_lt hc.1) (Nat.le_succ_of_le hinv.2) hc.1
    exact SPred.pure_intro ⟨hinv.1.trans fs, Nat.le_succ_of_le hinv.2⟩
  case vc2 => -- `break`
    rename_i s hinv hc
    exact SPred.pure_intro hinv
  case vc3 => -- on entry
    rename_i s hpre
    exact SPred.pure_intro ⟨hpre ▸ Frame.refl _ _ _, Nat.le_refl _⟩
  case vc4 => -- after the loop
    rename_i s hinv
    exact SPred.pure_intro hinv.1
  case vc5 => -- fewer than two elements: nothing is done
    rename_i s hpre
    exact SPred.pure_intro (hpre ▸ Frame.refl _ _ _)

theorem Sorted.snoc (h : SWO lt) {lo i : Nat} {b : Array α} (hs : Sorted lt lo (lo + i) b) (hi1 : 1 ≤ i)
    (hc : lt (at' b (lo + i)) (at' b (lo + i - 1)) = false) : Sorted lt lo (lo + (i + 1)) b := by
  intro p q h1 h2 h3
  by_cases e : q = lo + i
  · subst e
    by_cases e2 : p = lo + i - 1
    · subst e2; exact hc
    · exact h.le_trans _ _ _ (hs p (lo + i - 1) h1 (by omega) (by omega)) hc
  · exact hs p q h1 h2 (by omega)

/-- the first unsorted pair `(lo + i - 1, lo + i)`, behind the sorted prefix, is swapped: the prefix without its last
    element stays sorted, which is what `shiftTail` on `v[lo .. lo + i)` needs -/
theorem Sorted.swap_after {lo i hi : Nat} {b : Array α} (hs : Sorted lt lo (lo + i) b) (h1 : 1 ≤ i) (hi' : lo + i < hi) :
    Frame lo hi b (b.swapIfInBounds (lo + i - 1) (lo + i)) ∧
    Sorted lt lo (lo + i - 1) (b.swapIfInBounds (lo + i - 1) (lo + i)) := by
  have ft : Frame (lo + i - 1) (lo + i + 1) b (b.swapIfInBounds (lo + i - 1) (lo + i)) :=
    Frame.swap _ _ b _ _ (Nat.le_refl _) (by omega) (Nat.sub_le _ _) (Nat.lt_succ_self _)
  exact ⟨ft.mono (by omega) hi', (hs.mono (Nat.le_refl _) (Nat.sub_le _ _)).frame_disjoint ft (Or.inl (Nat.le_refl _))⟩

theorem unsorted_pair_inside {lo hi i : Nat} (hb : i ≤ hi - lo ∨ i = 1) (hne : i ≠ hi - lo)
    (hlen : ¬ hi - lo < PS_SHORTEST_SHIFTING) : lo + i < hi := by
  have h2 : 2 ≤ PS_SHORTEST_SHIFTING := by decide
  omega

theorem partialInsertionSort_spec (h : SWO lt) : PartialInsertionSpec lt := by
  intro a0 lo hi a
  have hST := shiftTail_spec (a0 := a0) lt h
  have hSH := shiftHead_spec (a0 := a0) lt
  mvcgen -trivial -leave [partialInsertionSort, rd_spec, swp_spec, hST, hSH]
  -- `inv1` belongs to the outer loop (`ret` is its early `return`), `inv2` to the scan for the next unsorted pair.
  -- `i` starts at 1 also for the empty slice, hence `i ≤ hi - lo ∨ i = 1`.
  case inv1 =>
    exact ⇓ ⟨xs, ret, i⟩ s => ⌜Frame lo hi a s.val ∧
      ((ret = none ∧ 1 ≤ i ∧ (i ≤ hi - lo ∨ i = 1) ∧ Sorted lt lo (lo + i) s.val) ∨
       (xs.suffix.length = 0 ∧ ∃ r, ret = some r ∧ (r = true → Sorted lt lo hi s.val)))⌝
  case inv2 =>
    exact ⇓ ⟨xs, i⟩ s => ⌜Frame lo hi a s.val ∧ 1 ≤ i ∧ (i ≤ hi - lo ∨ i = 1) ∧ Sorted lt lo (lo + i) s.val⌝
  case vc1 => -- the scan moves on
    rename_i s hinv2 hc i'
    obtain ⟨f, h1, hb, h2⟩ := hinv2
    exact SPred.pure_intro ⟨f, Nat.le_succ_of_le h1, Or.inl hc.1, h2.snoc lt h h1 ((Bool.not_eq_true' _).mp hc.2)⟩
  case vc2 => -- the scan stops
    rename_i s hinv2 hc
    exact SPred.pure_intro hinv2
  case vc3 => -- the scan starts
    rename_i s hinv1
    exact SPred.pure_intro ⟨hinv1.1, (hinv1.2.resolve_right fun hd => Nat.succ_ne_zero _ hd.1).2⟩
  case vc4 => -- the scan has reached the end: `return true`
    rename_i r heq s hinv2
    obtain ⟨f, h1, hb, h2⟩ := hinv2
    refine SPred.pure_intro ⟨f, Or.inr ⟨rfl, true, rfl, fun _ => ?_⟩⟩
    have e : lo + r = hi := by have := eq_of_beq heq; omega
    rw [← e]; exact h2
  case vc5 => -- too short for shifting: `return false`
    rename_i s hinv2
    exact SPred.pure_intro ⟨hinv2.1, Or.inr ⟨rfl, false, rfl, fun e => Bool.noConfusion e⟩⟩
  case vc6 => -- the pair is swapped: the precondition of `shiftTail`
    rename_i s0 hpre _ _ _ _ _ _ _ _ r hne hlen s hinv2
    obtain ⟨f, h1, hb, h2⟩ := hinv2
    have hr := unsorted_pair_inside hb (fun e => hne (beq_of_eq e)) hlen
    refine SPred.pure_intro ⟨rfl, ?_, (h2.swap_after lt h1 hr).2⟩
    rw [size_swap, f.size]; exact Nat.le_trans (Nat.le_of_lt hr) hpre.2
  case vc7 => -- the outer invariant after `shiftTail` and `shiftHead`
    rename_i r hne hlen s2 hinv2 r1 s3 hst r2 s hsh
    obtain ⟨f, h1, hb, h2⟩ := hinv2
    have hr := unsorted_pair_inside hb (fun e => hne (beq_of_eq e)) hlen
    have fst := hst.1.mono (Nat.le_refl _) (Nat.le_of_lt hr)
    have fsh := hsh.mono (Nat.le_add_right _ _) (Nat.le_refl _)
    exact SPred.pure_intro ⟨(f.trans (h2.swap_after lt h1 hr).1).trans (fst.trans fsh),
      Or.inl ⟨rfl, h1, hb, hst.2.frame_disjoint hsh (Or.inl (Nat.le_refl _))⟩⟩
  case vc8 => -- the outer invariant on entry
    rename_i s hpre
    exact SPred.pure_intro
      ⟨hpre.1 ▸ Frame.refl _ _ _, Or.inl ⟨rfl, Nat.le_refl _, Or.inr rfl, fun i j _ _ _ => by omega⟩⟩
  case vc9 => -- the outer loop was left by a `return`
    rename_i r ret b hret s hinv
    refine SPred.pure_intro ⟨hinv.1, fun hb => ?_⟩
    have hret' : r.1 = some b := hret
    rcases hinv.2 with ⟨h1, _⟩ | ⟨_, r', h1, h2⟩
    · rw [hret'] at h1; cases h1
    · rw [hret'] at h1; cases h1; exact h2 hb
  case vc10 => -- the outer loop has run out: `false`
    rename_i s hinv
    exact SPred.pure_intro ⟨hinv.1, fun e => Bool.noConfusion e⟩
end NucleoVerif.PS
