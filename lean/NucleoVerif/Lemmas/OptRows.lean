import NucleoVerif.Lemmas.OptRow
import NucleoVerif.Lemmas.DPComplete
/-! The rows of the recurrence under the greedy row offsets, with no reference to the implementation's state: a row is
empty before its offset, has a cell there, and the next row from its offset on is the outputs of this row's records. -/
namespace NucleoVerif.OptImpl
open NucleoVerif NucleoVerif.Gen NucleoVerif.Gen.Opt NucleoVerif.DP

/-- the carry (M and P of the last column) after the cells `ms` -/
def carryAfter : List (Option Cell) → Option Cell → Option PCell → Option Cell × Option PCell
  | [], prevM, p => (prevM, p)
  | m :: ms, prevM, p => carryAfter ms m (pScore prevM p)

theorem carryAfter_nones : ∀ (k : Nat), carryAfter (List.replicate k none) none none = (none, none)
  | 0 => rfl
  | k + 1 => carryAfter_nones k


theorem carryAfter_snoc : ∀ (ms : List (Option Cell)) (m : Option Cell) (prevM : Option Cell) (p : Option PCell),
    carryAfter (ms ++ [m]) prevM p = (m, pScore (carryAfter ms prevM p).1 (carryAfter ms prevM p).2) := by
  intro ms
  induction ms with
  | nil => intro m prevM p; rfl
  | cons x ms ih => intro m prevM p; simp only [List.cons_append, carryAfter]; exact ih m x _

theorem nsteps_get (nnc : Nat) : ∀ (ms : List (Option Cell)) (cs : List Col) (prevM : Option Cell) (p : Option PCell) (t : Nat) (st : NStep),
    (nsteps nnc ms cs prevM p)[t]? = some st →
    ms[t]? = some st.m ∧ cs[t]? = some st.col ∧ st.nnc = nnc ∧
      st.prevM = (carryAfter (ms.take t) prevM p).1 ∧ st.pin = (carryAfter (ms.take t) prevM p).2 := by
  intro ms
  induction ms with
  | nil => intro _ _ _ _ _ h; nomatch h
  | cons m ms ih =>
    intro cs prevM p t st
    cases cs with
    | nil => intro h; nomatch h
    | cons c cs =>
      cases t with
      | zero => intro h; cases h; exact ⟨rfl, rfl, rfl, rfl, rfl⟩
      | succ t => exact ih cs m (pScore prevM p) t st


theorem nsteps_consecutive (nnc : Nat) (ms : List (Option Cell)) (cs : List Col) (t : Nat) (st st' : NStep)
    (h : (nsteps nnc ms cs none none)[t + 1]? = some st) (h' : (nsteps nnc ms cs none none)[t]? = some st') :
    st.prevM = st'.m ∧ st.pin = st'.p' := by
  obtain ⟨_, _, _, a1, a2⟩ := nsteps_get nnc ms cs none none (t + 1) st h
  obtain ⟨b0, _, _, b1, b2⟩ := nsteps_get nnc ms cs none none t st' h'
  have e : ms.take (t + 1) = ms.take t ++ [st'.m] := by
    rw [List.take_add_one, b0]; rfl
  rw [e, carryAfter_snoc] at a1 a2
  unfold NStep.p'
  rw [b1, b2]
  exact ⟨a1, a2⟩

theorem Live.at (d : Nat) (ms : List (Option Cell)) (prevM : Option Cell) (p : Option PCell) (m : Option Cell)
    (hl : Live d prevM p ms) (h : ms[d]? = some m) :
    m.isSome = true ∨ (pScore (carryAfter (ms.take d) prevM p).1 (carryAfter (ms.take d) prevM p).2).isSome = true := by
  induction d generalizing ms prevM p with
  | zero => cases ms with
    | nil => nomatch h
    | cons _ _ => cases h; exact hl.here
  | succ d ih => cases ms with
    | nil => nomatch h
    | cons _ ms => exact ih ms _ _ hl.step h

theorem nextRow_eq_steps (nnc : Nat) (R : List (Option Cell)) (cols : List Col) (ro : Nat) (hro : ro < cols.length)
    (hnone : R.take ro = List.replicate ro none) :
    nextRow nnc R cols = List.replicate (ro + 1) none ++ (nsteps nnc (R.drop ro) (cols.drop (ro + 1)) none none).map NStep.out := by
  have h : nextRow nnc (List.replicate (cols.take ro).length none ++ R.drop ro) (cols.take ro ++ cols[ro] :: cols.drop (ro + 1)) =
      List.replicate ((cols.take ro).length + 1) none ++ (nsteps nnc (R.drop ro) (cols.drop (ro + 1)) none none).map NStep.out := by
    rw [nextRow_nones, nextRow_cons, zipGo_eq_nsteps, List.replicate_succ', List.append_assoc]
    rfl
  rw [← List.drop_eq_getElem_cons hro, List.take_append_drop, List.length_take, Nat.min_eq_left (Nat.le_of_lt hro), ← hnone,
    List.take_append_drop] at h
  exact h

theorem drop_of_nones (R : List (Option Cell)) (ro so : Nat) (hso : ro ≤ so) (hnone : R.take so = List.replicate so none) :
    R.drop ro = List.replicate (so - ro) none ++ R.drop so := by
  conv => lhs; rw [← List.take_append_drop so R, hnone]
  rw [List.drop_append, List.drop_replicate, List.length_replicate, Nat.sub_eq_zero_of_le hso, List.drop_zero]

theorem take_nones_of_le {R : List (Option Cell)} {a b : Nat} (hab : a ≤ b) (h : R.take b = List.replicate b none) :
    R.take a = List.replicate a none := by
  have := congrArg (List.take a) h
  rwa [List.take_take, Nat.min_eq_left hab, List.take_replicate, Nat.min_eq_left hab] at this

theorem carryAfter_drop_nones (R : List (Option Cell)) (ro t : Nat) (hnone : R.take (ro + t) = List.replicate (ro + t) none) :
    carryAfter ((R.drop ro).take t) none none = (none, none) := by
  have hd := drop_of_nones R ro (ro + t) (Nat.le_add_right ..) hnone
  rw [Nat.add_sub_cancel_left] at hd
  rw [hd, List.take_left' (List.length_replicate ..), carryAfter_nones]

/-- `o` is the first column from `lb` on that carries the character `nc` -/
def FirstAt (cols : List Col) (lb o nc : Nat) : Prop :=
  lb ≤ o ∧ (∀ j c, lb ≤ j → j < o → cols[j]? = some c → c.ch ≠ nc) ∧ ∃ c, cols[o]? = some c ∧ c.ch = nc

theorem firstRow_firstAt (n0 : Nat) (so : Nat) (cols : List Col) (pb : Nat) (hf : FirstAt cols 0 so n0) :
    (firstRow n0 cols pb).take so = List.replicate so none ∧ ∃ cc, (firstRow n0 cols pb)[so]? = some (some cc) := by
  obtain ⟨-, hch, c, h1, h2⟩ := hf
  induction so generalizing cols pb with
  | zero => cases cols with
    | nil => nomatch h1
    | cons x cs =>
      cases h1
      exact ⟨rfl, _, by simp only [firstRow, if_pos h2]; rfl⟩
  | succ so ih => cases cols with
    | nil => nomatch h1
    | cons x cs =>
      have hx : x.ch ≠ n0 := hch 0 x (Nat.zero_le _) (Nat.succ_pos _) rfl
      obtain ⟨i1, i2⟩ := ih cs (pb - PENALTY_GAP_EXTENSION) (fun j c' _ hj hc' => hch (j + 1) c' (Nat.zero_le _) (Nat.succ_lt_succ hj) hc') h1
      simp only [firstRow, if_neg hx, List.take_succ_cons, List.replicate_succ, List.getElem?_cons_succ]
      exact ⟨congrArg _ i1, i2⟩

theorem firstRow_path (n0 : Nat) (cols : List Col) (pb j : Nat) (cc : Cell) (h : (firstRow n0 cols pb)[j]? = some (some cc)) :
    ∃ x, cols[j]? = some x ∧ cc.path = [x.idx] := by
  rw [firstRow_getElem?] at h
  cases hx : cols[j]? with
  | none => rw [hx] at h; cases h
  | some x =>
    rw [hx, Option.map_some, Option.some.injEq] at h
    split at h
    · cases h; exact ⟨x, rfl, rfl⟩
    · cases h

theorem steps_out_none (nnc : Nat) (R : List (Option Cell)) (cols : List Col) (ro e d : Nat)
    (hnone : R.take (ro + e) = List.replicate (ro + e) none) (hf : FirstAt cols (ro + e + 1) (ro + d + 1) nnc) :
    ∀ (t : Nat) (st : NStep), t < d → (nsteps nnc (R.drop ro) (cols.drop (ro + 1)) none none)[t]? = some st → st.out = none := by
  intro t st ht hst
  obtain ⟨hm, hc, hn, hpm, hpp⟩ := nsteps_get nnc _ _ _ _ t st hst
  unfold NStep.out
  by_cases h1 : t < e
  · -- no alignment of the current row ends this early
    have hlt : ro + t < ro + e := Nat.add_lt_add_left h1 ro
    rw [carryAfter_drop_nones R ro t (take_nones_of_le (Nat.le_of_lt hlt) hnone)] at hpm hpp
    rw [List.getElem?_drop, ← List.getElem?_take_of_lt hlt, hnone, List.getElem?_replicate, if_pos hlt] at hm
    unfold NStep.p'
    rw [← Option.some.inj hm, hpm, hpp]
    exact ite_self _
  · -- the column does not carry the next needle character
    rw [List.getElem?_drop] at hc
    rw [hn, if_neg (hf.2.1 _ _ (by omega) (by omega) hc)]

theorem steps_out_some (nnc : Nat) (R : List (Option Cell)) (cols : List Col) (ro e d : Nat)
    (hsome : ∃ c, R[ro + e]? = some (some c)) (hf : FirstAt cols (ro + e + 1) (ro + d + 1) nnc) :
    ∀ (st : NStep), (nsteps nnc (R.drop ro) (cols.drop (ro + 1)) none none)[d]? = some st → st.out.isSome = true := by
  intro st hst
  obtain ⟨hm, hc, hn, hpm, hpp⟩ := nsteps_get nnc _ _ _ _ _ st hst
  obtain ⟨he, _, c, hc1, hc2⟩ := hf
  obtain ⟨cs, hcs⟩ := hsome
  rw [List.getElem?_drop, Nat.add_right_comm, hc1] at hc
  have hlive : Live d none none (R.drop ro) :=
    Or.inr (Or.inr ⟨e, cs, Nat.le_of_add_le_add_left (Nat.le_of_succ_le_succ he), by rw [List.getElem?_drop]; exact hcs⟩)
  unfold NStep.out NStep.p'
  rw [hn, ← Option.some.inj hc, if_pos hc2, nextM_isSome, hpm, hpp, Bool.or_eq_true]
  exact hlive.at d _ none none st.m hm

/-- `ro`: where `score_row` starts scanning the current row `R`, whose first cell is at `ro + e`.  The next row is empty
    before column `ro + d + 1`, has a cell there, and from there on is the outputs of the records. -/
theorem nextRow_firstAt (nnc : Nat) (R : List (Option Cell)) (cols : List Col) (ro e d : Nat) (hR : R.length = cols.length)
    (hnro : ro + d + 1 < cols.length)
    (hnone : R.take (ro + e) = List.replicate (ro + e) none) (hsome : ∃ c, R[ro + e]? = some (some c))
    (hf : FirstAt cols (ro + e + 1) (ro + d + 1) nnc) :
    (nextRow nnc R cols).take (ro + d + 1) = List.replicate (ro + d + 1) none ∧
    (∃ c, (nextRow nnc R cols)[ro + d + 1]? = some (some c)) ∧
    (nextRow nnc R cols).drop (ro + d + 1) = ((nsteps nnc (R.drop ro) (cols.drop (ro + 1)) none none).drop d).map NStep.out := by
  have e0 := nextRow_eq_steps nnc R cols ro (by omega) (take_nones_of_le (Nat.le_add_right ..) hnone)
  have hnn := steps_out_none nnc R cols ro e d hnone hf
  have hss := steps_out_some nnc R cols ro e d hsome hf
  generalize nsteps nnc (R.drop ro) (cols.drop (ro + 1)) none none = steps at e0 hnn hss ⊢
  have hlen : d < steps.length := by
    have := congrArg List.length e0
    rw [nextRow_length nnc R cols hR, List.length_append, List.length_replicate, List.length_map] at this
    omega
  have hfirst : (steps.take d).map NStep.out = List.replicate d none := by
    apply List.eq_replicate_iff.mpr
    refine ⟨by rw [List.length_map, List.length_take, Nat.min_eq_left (Nat.le_of_lt hlen)], ?_⟩
    intro x hx
    obtain ⟨st, hst1, rfl⟩ := List.mem_map.mp hx
    obtain ⟨t, ht, hget⟩ := List.getElem_of_mem hst1
    rw [List.length_take] at ht
    rw [List.getElem_take] at hget
    exact hnn t st (Nat.lt_of_lt_of_le ht (Nat.min_le_left ..)) (by rw [← hget]; exact List.getElem?_eq_getElem _)
  have e2 : nextRow nnc R cols = List.replicate (ro + d + 1) none ++ (steps.drop d).map NStep.out := by
    rw [e0]
    conv => lhs; rw [← List.take_append_drop d steps, List.map_append, hfirst, ← List.append_assoc, List.replicate_append_replicate]
    rw [Nat.add_right_comm]
  refine ⟨?_, ?_, ?_⟩
  · rw [e2, List.take_left' (List.length_replicate ..)]
  · obtain ⟨c, hc⟩ := Option.isSome_iff_exists.mp (hss steps[d] (List.getElem?_eq_getElem hlen))
    refine ⟨c, ?_⟩
    rw [e2, List.getElem?_append_right (by rw [List.length_replicate]; exact Nat.le_refl _), List.length_replicate, Nat.sub_self, List.getElem?_map,
      List.getElem?_drop, Nat.add_zero, List.getElem?_eq_getElem hlen, Option.map_some, hc]
  · rw [e2, List.drop_left' (List.length_replicate ..)]

theorem rowOffsGo_length_le : ∀ (cols : List Col) (n : List Nat) (b : Nat), (rowOffsGo n cols b).length ≤ cols.length := by
  intro cols
  induction cols with
  | nil => intro n b; cases n <;> exact Nat.le_refl _
  | cons c cs ih =>
    intro n b
    cases n with
    | nil => exact Nat.zero_le _
    | cons nc ns =>
      simp only [rowOffsGo]
      split
      · exact Nat.succ_le_succ (ih ns (b + 1))
      · exact Nat.le_succ_of_le (ih (nc :: ns) (b + 1))

theorem setupMatched_iff : ∀ (cols : List Col) (n : List Nat) (b : Nat),
    setupMatched n cols = true ↔ (rowOffsGo n cols b).length = n.length := by
  intro cols
  induction cols with
  | nil => intro n b; cases n <;> simp [setupMatched, rowOffsGo]
  | cons c cs ih =>
    intro n b
    cases n with
    | nil => simp [setupMatched, rowOffsGo]
    | cons nc ns =>
      simp only [setupMatched, rowOffsGo]
      split
      · rw [ih ns (b + 1)]; simp
      · exact ih (nc :: ns) (b + 1)

/-- the offsets found by the scan from column `lo` on: each is the first column at or after its lower bound that carries
    its needle character, and enough columns remain for the rest of the needle -/
def GreedyFrom (cols : List Col) : Nat → List Nat → List Nat → Prop
  | _, [], [] => True
  | lo, nc :: ns, o :: os =>
    FirstAt cols lo o nc ∧ o + ns.length < cols.length ∧ GreedyFrom cols (o + 1) ns os
  | _, _, _ => False

/-- the scan has read the columns `pre` and goes on over `suf` -/
theorem rowOffsGo_greedy : ∀ (suf pre : List Col) (n offs : List Nat),
    rowOffsGo n suf pre.length = offs → offs.length = n.length → GreedyFrom (pre ++ suf) pre.length n offs := by
  intro suf
  induction suf with
  | nil =>
    intro pre n offs h hl
    cases n with
    | nil => cases h; trivial
    | cons nc ns => cases h; cases hl
  | cons c suf ih =>
    intro pre n offs h hl
    cases n with
    | nil => cases h; trivial
    | cons nc ns =>
      have hcols : pre ++ c :: suf = (pre ++ [c]) ++ suf := List.append_cons ..
      have hlen : (pre ++ [c]).length = pre.length + 1 := List.length_append
      have hget : (pre ++ c :: suf)[pre.length]? = some c := by rw [List.getElem?_append_right (Nat.le_refl _), Nat.sub_self]; rfl
      simp only [rowOffsGo] at h
      by_cases hc : c.ch = nc
      · rw [if_pos hc] at h
        subst h
        have hl' := Nat.succ.inj hl
        have hrest := ih (pre ++ [c]) ns _ (by rw [hlen]) hl'
        rw [hlen, ← hcols] at hrest
        have hle := rowOffsGo_length_le suf ns (pre.length + 1)
        refine ⟨⟨Nat.le_refl _, fun j _ h1 h2 => absurd h1 (Nat.not_le_of_lt h2), c, hget, hc⟩, ?_, hrest⟩
        rw [List.length_append, List.length_cons, ← hl']
        omega
      · rw [if_neg hc] at h
        have hrest := ih (pre ++ [c]) (nc :: ns) offs (by rw [hlen]; exact h) hl
        rw [hlen, ← hcols] at hrest
        cases offs with
        | nil => cases hl
        | cons o os =>
          obtain ⟨⟨h1, h3, h4⟩, h2, h5⟩ := hrest
          refine ⟨⟨Nat.le_of_succ_le h1, fun j c' hj1 hj2 hjc => ?_, h4⟩, h2, h5⟩
          rcases Nat.eq_or_lt_of_le hj1 with rfl | hlt
          · rw [hget] at hjc
            exact Option.some.inj hjc ▸ hc
          · exact h3 j c' hlt hj2 hjc

theorem rowOffs_greedy (cols : List Col) (n : List Nat) (h : (rowOffs n cols).length = n.length) :
    GreedyFrom cols 0 n (rowOffs n cols) :=
  rowOffsGo_greedy cols [] n _ rfl h

theorem greedy_index (cols : List Col) (n offs : List Nat) (lo : Nat) (h : GreedyFrom cols lo n offs) :
    offs.length = n.length ∧ (0 < n.length → FirstAt cols lo (offs.getD 0 0) (n.getD 0 0)) ∧
    (∀ r, r + 1 < n.length → FirstAt cols (offs.getD r 0 + 1) (offs.getD (r + 1) 0) (n.getD (r + 1) 0)) ∧
    ∀ r, r < n.length → offs.getD r 0 + n.length ≤ cols.length + r := by
  induction n generalizing offs lo with
  | nil =>
    cases offs with
    | nil =>
      exact ⟨rfl, fun h => absurd h (Nat.not_lt_zero _), fun _ h => absurd h (Nat.not_lt_zero _),
        fun _ h => absurd h (Nat.not_lt_zero _)⟩
    | cons _ _ => exact h.elim
  | cons nc ns ih =>
    cases offs with
    | nil => exact h.elim
    | cons o os =>
      obtain ⟨h1, h2, h3⟩ := h
      obtain ⟨il, i0, is, ib⟩ := ih os (o + 1) h3
      refine ⟨congrArg (· + 1) il, fun _ => h1, fun r hr => ?_, fun r hr => ?_⟩
      · cases r with
        | zero => exact i0 (Nat.lt_of_succ_lt_succ hr)
        | succ r => exact is r (Nat.lt_of_succ_lt_succ hr)
      · cases r with
        | zero => exact h2
        | succ r => exact Nat.succ_le_succ (ib r (Nat.lt_of_succ_lt_succ hr))

theorem allRows_snoc (cols : List Col) : ∀ (a : List Nat) (x : Nat) (R : List (Option Cell)),
    allRows cols (a ++ [x]) R = nextRow x (allRows cols a R) cols := by
  intro a
  induction a with
  | nil => intro x R; rfl
  | cons y a ih => intro x R; simp only [List.cons_append, allRows]; exact ih x _

/-- row `r` of the recurrence for the needle `n` -/
def rowN (cols : List Col) (n : List Nat) (pb : Nat) (r : Nat) : List (Option Cell) :=
  allRows cols ((n.drop 1).take r) (firstRow (n.getD 0 0) cols pb)

theorem rowN_succ (cols : List Col) (n : List Nat) (pb r : Nat) (h : r + 1 < n.length) :
    rowN cols n pb (r + 1) = nextRow (n.getD (r + 1) 0) (rowN cols n pb r) cols := by
  unfold rowN
  have : (n.drop 1).take (r + 1) = (n.drop 1).take r ++ [n.getD (r + 1) 0] := by
    rw [List.take_add_one, List.getElem?_drop, Nat.add_comm 1 r, List.getD_eq_getElem?_getD, List.getElem?_eq_getElem h]
    rfl
  rw [this, allRows_snoc]

theorem rowN_length (cols : List Col) (n : List Nat) (pb : Nat) : ∀ r, (rowN cols n pb r).length = cols.length :=
  fun _ => allRows_length cols _ _ (firstRow_length _ _ _)

def RowLen (L : Nat) (row : List (Option Cell)) : Prop := ∀ (k : Nat) c, row[k]? = some (some c) → c.path.length = L

theorem rowN_len (cols : List Col) (n : List Nat) (pb : Nat) : ∀ r, r < n.length → RowLen (r + 1) (rowN cols n pb r) := by
  intro r hr k c hk
  -- an alignment is as long as the needle prefix it matches
  let Q (np l : List Nat) : Prop := l.length = np.length
  have : Q ([n.getD 0 0] ++ (n.drop 1).take r) c.path :=
    allRows_paths cols Q (fun _ _ np l h => by show _ = _; rw [List.length_append, List.length_append, h]; rfl)
      _ _ _ (firstRow_paths cols Q (fun _ _ => rfl) _ pb) k c hk
  rw [this, List.length_append, List.length_take, List.length_drop, Nat.min_eq_left (Nat.le_sub_one_of_lt hr)]
  exact Nat.add_comm ..

open NucleoVerif.Spec in
theorem cell_score_eq_alignScore (cfg : Cfg) (ext : Ext) (h : List Nat) (c : Cell) (j : Nat) (hj : j < h.length)
    (inv : CellInv cfg.white cfg.delim cfg.initial (clsOf cfg ext h) c j) : c.score = alignScore cfg ext h c.path :=
  DP.cellInv_score cfg ext h c j hj inv

end NucleoVerif.OptImpl
