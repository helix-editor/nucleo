import NucleoVerif.Lemmas.SortBase
open Std.Do
namespace NucleoVerif.PS
open Gen
set_option mvcgen.warning false

section
variable {α : Type} (lt : α → α → Bool)

theorem cpSort2_lt (v : Nat → α) (x y sw n : Nat) (hx : x < n) (hy : y < n) :
    (cpSort2 lt v x y sw).1 < n ∧ (cpSort2 lt v x y sw).2.1 < n := by
  unfold cpSort2
  by_cases hc : lt (v y) (v x) = true
  · rw [if_pos hc]; exact ⟨hy, hx⟩
  · rw [if_neg hc]; exact ⟨hx, hy⟩

theorem cpSort3_lt (v : Nat → α) (x y z sw n : Nat) (hx : x < n) (hy : y < n) (hz : z < n) :
    (cpSort3 lt v x y z sw).1 < n ∧ (cpSort3 lt v x y z sw).2.1 < n ∧ (cpSort3 lt v x y z sw).2.2.1 < n := by
  unfold cpSort3
  have h1 := cpSort2_lt lt v x y sw n hx hy
  have h2 := cpSort2_lt lt v _ z (cpSort2 lt v x y sw).2.2 n h1.2 hz
  have h3 := cpSort2_lt lt v _ _ (cpSort2 lt v (cpSort2 lt v x y sw).2.1 z (cpSort2 lt v x y sw).2.2).2.2 n h1.1 h2.1
  exact ⟨h3.1, h3.2, h2.2⟩

/-- the three sampling points `len/4·k` (`k ≤ 3`) and their neighbours lie inside a slice of length `≥ 8` -/
theorem quarter_lt {len k : Nat} (h8 : 8 ≤ len) (hk : k ≤ 3) : len / 4 * k + 1 < len := by
  have := Nat.mul_le_mul_left (len / 4) hk
  omega

theorem cpSort3_around_lt (v : Nat → α) (q sw n : Nat) (hq : q + 1 < n) :
    (cpSort3 lt v (q - 1) q (q + 1) sw).2.1 < n :=
  (cpSort3_lt lt v _ _ _ sw n (Nat.lt_of_le_of_lt (Nat.sub_le _ _) (Nat.lt_of_succ_lt hq)) (Nat.lt_of_succ_lt hq) hq).2.1

theorem choosePivotIdx_lt (v : Nat → α) (len : Nat) (hl : 0 < len) : (choosePivotIdx lt v len).1 < len := by
  unfold choosePivotIdx
  simp only []
  by_cases h8 : len ≥ 8
  · rw [if_pos h8]
    have q1 := quarter_lt h8 (k := 1) (by decide)
    have q2 := quarter_lt h8 (k := 2) (by decide)
    have q3 := quarter_lt h8 (k := 3) (Nat.le_refl _)
    by_cases h50 : len ≥ PS_SHORTEST_MEDIAN_OF_MEDIANS
    · -- the median of the three medians around the sampling points
      rw [if_pos h50]
      exact (cpSort3_lt lt v _ _ _ _ len (cpSort3_around_lt lt v _ _ len q1) (cpSort3_around_lt lt v _ _ len q2)
        (cpSort3_around_lt lt v _ _ len q3)).2.1
    · rw [if_neg h50]
      exact (cpSort3_lt lt v _ _ _ _ len (Nat.lt_of_succ_lt q1) (Nat.lt_of_succ_lt q2) (Nat.lt_of_succ_lt q3)).2.1
  · rw [if_neg h8]
    show len / 4 * 2 < len
    omega
end

variable {α : Type} [Inhabited α] {a0 : Array α} (lt : α → α → Bool)

theorem Frame.reverse_swap (lo hi k : Nat) (a : Array α) (hk : k < (hi - lo) / 2) :
    Frame lo hi a (a.swapIfInBounds (lo + k) (lo + (hi - lo) - 1 - k)) := by
  have hb : lo + k < hi ∧ lo ≤ lo + (hi - lo) - 1 - k ∧ lo + (hi - lo) - 1 - k < hi := by omega
  exact Frame.swap lo hi a _ _ (Nat.le_add_right _ _) hb.1 hb.2.1 hb.2.2

theorem choosePivot_spec : ChoosePivotSpec lt := by
  intro a0 lo hi a
  mvcgen -trivial -leave [choosePivot, swp_spec]
  case inv1 => exact ⇓ ⟨xs, _⟩ s => ⌜Frame lo hi a s.val⌝
  case vc1 => -- few swaps: the candidate is returned
    rename_i s hpre _ _ _
    exact SPred.pure_intro ⟨hpre.1 ▸ Frame.refl _ _ _, choosePivotIdx_lt lt _ (hi - lo) (Nat.sub_pos_of_lt hpre.2.2)⟩
  case vc2 => -- many swaps: one step of the reversal
    rename_i hsplit _ s hinv
    exact SPred.pure_intro (hinv.trans (Frame.reverse_swap lo hi _ s.val (range_split_bounds hsplit).2))
  case vc3 => -- the reversal starts
    rename_i s hpre _ _ _
    exact SPred.pure_intro (hpre.1 ▸ Frame.refl _ _ _)
  case vc4 => -- the slice has been reversed, and the candidate's index with it
    rename_i s0 hpre _ _ _ _ s hinv
    exact SPred.pure_intro ⟨hinv, Nat.lt_of_le_of_lt (Nat.sub_le _ _) (Nat.sub_lt (Nat.sub_pos_of_lt hpre.2.2) Nat.one_pos)⟩

theorem nextPow2Go_lt (n : Nat) : ∀ fuel p, p < 2 * n → nextPow2Go n fuel p < 2 * n := by
  intro fuel
  induction fuel with
  | zero => intro p hp; exact hp
  | succ f ih =>
    intro p hp
    unfold nextPow2Go
    by_cases hpn : p < n
    · rw [if_pos hpn]; exact ih _ (by omega)
    · rw [if_neg hpn]; exact hp

theorem nextPow2_lt (n : Nat) (hn : 0 < n) : nextPow2 n < 2 * n := nextPow2Go_lt n 70 1 (by omega)

/-- the random index after masking with `next_power_of_two(len) - 1` is below `2·len`, so one subtraction of `len`
    brings it into the slice -/
theorem and_mask_lt (x len : Nat) (hl : 0 < len) : x &&& (nextPow2 len - 1) < len + len := by
  have hm := nextPow2_lt len hl
  have ho : x &&& (nextPow2 len - 1) ≤ nextPow2 len - 1 := Nat.and_le_right
  omega

theorem Frame.breakPatterns_swap (lo hi i other : Nat) (a : Array α) (h8 : hi - lo ≥ 8) (hi3 : i < 3)
    (ho : other < hi - lo) :
    Frame lo hi a (a.swapIfInBounds (lo + (hi - lo) / 4 * 2 - 1 + i) (lo + other)) := by
  have hb : lo ≤ lo + (hi - lo) / 4 * 2 - 1 + i ∧ lo + (hi - lo) / 4 * 2 - 1 + i < hi ∧ lo + other < hi := by omega
  exact Frame.swap lo hi a _ _ hb.1 hb.2.1 (Nat.le_add_right _ _) hb.2.2

theorem breakPatterns_spec : BreakPatternsSpec (α := α) := by
  intro a0 lo hi a
  mvcgen -trivial -leave [breakPatterns, swp_spec]
  case inv1 => exact ⇓ ⟨xs, _⟩ s => ⌜Frame lo hi a s.val⌝
  case inv2 => exact ⇓ ⟨xs, _⟩ s => ⌜Frame lo hi a s.val⌝
  case vc1 | vc2 | vc3 | vc7 =>
    rename_i s hinv
    exact SPred.pure_intro hinv
  case vc4 => -- the swap, with `other ≥ len` reduced by `len`
    rename_i len h8 _ modulus pos s0 hpre pref cur suff hsplit b s1 hinv1 r _ _ hi32 lo32 other1 _ hge other s hinv
    have ho : other1 < (hi - lo) + (hi - lo) := and_mask_lt _ _ (Nat.lt_of_lt_of_le (by decide) h8)
    exact SPred.pure_intro (hinv.trans (Frame.breakPatterns_swap lo hi cur _ s.val h8 (range_split_bounds hsplit).2
      (Nat.sub_lt_left_of_lt_add hge ho)))
  case vc5 => -- the swap, with `other < len`
    rename_i len h8 _ modulus pos s0 hpre pref cur suff hsplit b s1 hinv1 r _ _ hi32 lo32 other _ hge s hinv
    exact SPred.pure_intro
      (hinv.trans (Frame.breakPatterns_swap lo hi cur _ s.val h8 (range_split_bounds hsplit).2 (Nat.not_le.1 hge)))
  case vc6 | vc8 =>
    rename_i s hpre
    exact SPred.pure_intro (hpre.1 ▸ Frame.refl _ _ _)
end NucleoVerif.PS
