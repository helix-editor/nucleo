import NucleoVerif.Model.Nucleo
/-! `Worker.run` is `begin`, then either `resetMatches` and `processTrivial` (empty pattern) or a scoring pass and `finish`.
Every pass changes only the match list and its bookkeeping (`SameControl`); the other fields of the result and the
`notify` decision are `run_control`. -/
namespace NucleoVerif.Nu

structure SameControl (w w' : Worker) : Prop where
  running : w'.running = w.running
  pattern : w'.pattern = w.pattern
  wasCanceled : w'.wasCanceled = w.wasCanceled
  stream : w'.stream = w.stream

theorem SameControl.trans {a b c : Worker} (h1 : SameControl a b) (h2 : SameControl b c) : SameControl a c :=
  ⟨h2.running.trans h1.running, h2.pattern.trans h1.pattern, h2.wasCanceled.trans h1.wasCanceled, h2.stream.trans h1.stream⟩

theorem resetMatches_control (w : Worker) (seen : Nat → Option Item) : SameControl w (resetMatches w seen) :=
  ⟨rfl, rfl, rfl, rfl⟩

theorem processTrivial_control (w : Worker) (seen : Nat → Option Item) (c : Nat) : SameControl w (processTrivial w seen c) := by
  unfold processTrivial
  split <;> exact ⟨rfl, rfl, rfl, rfl⟩

theorem begin_control (w : Worker) (c : Bool) :
    (w.begin c).running = true ∧ (w.begin c).pattern = w.pattern ∧ (w.begin c).wasCanceled = false ∧ (w.begin c).stream = w.stream := by
  cases c <;> exact ⟨rfl, rfl, rfl, rfl⟩

variable (score : Nat → Item → Option Nat) (len : Item → Nat)

theorem processNew_control (w : Worker) (o : Obs) : SameControl w (processNew score w o).1 := by
  unfold processNew
  split <;> exact ⟨rfl, rfl, rfl, rfl⟩

theorem rescore_control (w : Worker) (o : Obs) : SameControl w (rescore score w o).1 := ⟨rfl, rfl, rfl, rfl⟩

theorem scorePass_unchanged (w : Worker) (o : Obs) :
    Worker.scorePass score w .unchanged o = ((processNew score w o).1, (processNew score w o).2, o.count - w.lastSnapshot) := rfl

theorem scorePass_rescore (w : Worker) (o : Obs) :
    Worker.scorePass score w .rescore o = Worker.scorePass score (resetMatches w o.seen0) .update o := by
  unfold Worker.scorePass
  simp

theorem scorePass_update_nonempty (w : Worker) (o : Obs) (h : w.hits.isEmpty = false) :
    Worker.scorePass score w .update o =
      ((rescore score (processTrivial w o.seen1 o.count) o).1, (rescore score (processTrivial w o.seen1 o.count) o).2,
       (processTrivial w o.seen1 o.count).hits.length) := by
  unfold Worker.scorePass
  simp [h]

theorem scorePass_update_empty (w : Worker) (o : Obs) (h : w.hits.isEmpty = true) :
    Worker.scorePass score w .update o = Worker.scorePass score w .unchanged o := by
  unfold Worker.scorePass
  simp [h]

theorem scorePass_worker (w : Worker) (st : PStatus) (o : Obs) :
    ∃ w1, ((st = .rescore ∧ w1 = resetMatches w o.seen0) ∨ (st ≠ .rescore ∧ w1 = w)) ∧
      ((Worker.scorePass score w st o).1 = (rescore score (processTrivial w1 o.seen1 o.count) o).1 ∨
       (Worker.scorePass score w st o).1 = (processNew score w1 o).1) := by
  refine ⟨if st = .rescore then resetMatches w o.seen0 else w, ?_, ?_⟩
  · split
    · exact Or.inl ⟨‹_›, rfl⟩
    · exact Or.inr ⟨‹_›, rfl⟩
  · unfold Worker.scorePass
    simp only
    generalize (if st = .rescore then resetMatches w o.seen0 else w) = w1
    split
    · exact Or.inl rfl
    · exact Or.inr rfl

theorem scorePass_control (w : Worker) (st : PStatus) (o : Obs) : SameControl w (Worker.scorePass score w st o).1 := by
  obtain ⟨w1, h1, h2⟩ := scorePass_worker score w st o
  have c1 : SameControl w w1 := by
    rcases h1 with ⟨_, rfl⟩ | ⟨_, rfl⟩
    · exact resetMatches_control w _
    · exact ⟨rfl, rfl, rfl, rfl⟩
  rcases h2 with e | e <;> rw [e]
  · exact c1.trans ((processTrivial_control w1 _ _).trans (rescore_control score _ o))
  · exact c1.trans (processNew_control score w1 o)

theorem finish_of_canceled (w : Worker) (u p : Nat) (o : Obs) (h : o.canceled p = true) :
    Worker.finish len w u p o = ({ w with wasCanceled := true }, false) := if_pos h

theorem finish_of_not_canceled (w : Worker) (u p : Nat) (o : Obs) (h : o.canceled p = false) :
    Worker.finish len w u p o =
      ({ w with hits := (sortMatches len o.seen1 w.hits).take ((sortMatches len o.seen1 w.hits).length - u) }, o.shouldNotify) :=
  if_neg (by rw [h]; exact Bool.false_ne_true)

theorem finish_control (w : Worker) (u p : Nat) (o : Obs) :
    (Worker.finish len w u p o).1.running = w.running ∧ (Worker.finish len w u p o).1.pattern = w.pattern ∧
    (Worker.finish len w u p o).1.stream = w.stream ∧
    (Worker.finish len w u p o).1.wasCanceled = (o.canceled p || w.wasCanceled) ∧
    (Worker.finish len w u p o).2 = (!o.canceled p && o.shouldNotify) := by
  unfold Worker.finish
  cases o.canceled p <;> exact ⟨rfl, rfl, rfl, rfl, rfl⟩

theorem finish_bookkeeping (w : Worker) (u p : Nat) (o : Obs) :
    (Worker.finish len w u p o).1.inFlight = w.inFlight ∧ (Worker.finish len w u p o).1.lastSnapshot = w.lastSnapshot := by
  unfold Worker.finish
  split <;> exact ⟨rfl, rfl⟩

theorem run_emp (w : Worker) (st : PStatus) (cl : Bool) (o : Obs) :
    w.run score len st cl true o = (processTrivial (resetMatches (w.begin cl) o.seen0) o.seen1 o.count, o.shouldNotify) := rfl

theorem run_eq (w : Worker) (st : PStatus) (cl : Bool) (o : Obs) :
    w.run score len st cl false o =
      Worker.finish len (Worker.scorePass score (w.begin cl) st o).1 (Worker.scorePass score (w.begin cl) st o).2.1
        (Worker.scorePass score (w.begin cl) st o).2.2 o := rfl

/-- the control fields and the `notify` decision of a run -/
theorem run_control (w : Worker) (st : PStatus) (cl pe : Bool) (o : Obs) :
    (w.run score len st cl pe o).1.running = true ∧ (w.run score len st cl pe o).1.pattern = w.pattern ∧
    (w.run score len st cl pe o).1.stream = w.stream ∧
    (w.run score len st cl pe o).1.wasCanceled = (!pe && o.canceled (Worker.scorePass score (w.begin cl) st o).2.2) ∧
    (w.run score len st cl pe o).2 = (!(w.run score len st cl pe o).1.wasCanceled && o.shouldNotify) := by
  obtain ⟨b1, b2, b3, b4⟩ := begin_control w cl
  cases pe
  · have s := scorePass_control score (w.begin cl) st o
    obtain ⟨f1, f2, f3, f4, f5⟩ := finish_control len (Worker.scorePass score (w.begin cl) st o).1
      (Worker.scorePass score (w.begin cl) st o).2.1 (Worker.scorePass score (w.begin cl) st o).2.2 o
    rw [s.wasCanceled, b3, Bool.or_false] at f4
    rw [run_eq]
    exact ⟨f1.trans (s.running.trans b1), f2.trans (s.pattern.trans b2), f3.trans (s.stream.trans b4), f4, f4 ▸ f5⟩
  · have t := (resetMatches_control (w.begin cl) o.seen0).trans (processTrivial_control _ o.seen1 o.count)
    have hwc := t.wasCanceled.trans b3
    rw [run_emp]
    exact ⟨t.running.trans b1, t.pattern.trans b2, t.stream.trans b4, hwc, by rw [hwc]; rfl⟩

end NucleoVerif.Nu
