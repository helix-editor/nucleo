import NucleoVerif.Lemmas.DPComplete
/-! The recurrence does not depend on the prefilter window (C04, lower-bound clause).  Columns in front of the first
occurrence of the first needle character, and behind the last occurrence of the last one, cannot contribute: the rows
over `pre ++ w ++ post` are the rows over `w`, padded with empty cells. -/
namespace NucleoVerif
open Gen DP

theorem pScore_none : pScore none none = none := rfl
theorem nextM_none (b col : Nat) : nextM none b none col = none := rfl

theorem zipGo_nones (nc : Nat) : ∀ (pre : List Col) (R : List (Option Cell)) (C : List Col),
    zipGo nc (List.replicate pre.length none ++ R) (pre ++ C) none none =
      List.replicate pre.length none ++ zipGo nc R C none none := by
  intro pre
  induction pre with
  | nil => intro R C; rfl
  | cons c pre ih =>
    intro R C
    simp only [List.length_cons, List.replicate_succ, List.cons_append, zipGo, pScore_none, nextM_none, ite_self]
    rw [ih R C]

theorem cons_replicate_append {α} (a : α) (k : Nat) (Y : List α) :
    a :: (List.replicate k a ++ Y) = List.replicate k a ++ (a :: Y) := by
  induction k with
  | zero => rfl
  | succ k ih => simp only [List.replicate_succ, List.cons_append, ih]

theorem nextRow_nones (nc : Nat) (pre : List Col) (R : List (Option Cell)) (c0 : Col) (C : List Col) :
    nextRow nc (List.replicate pre.length none ++ R) (pre ++ c0 :: C) =
      List.replicate pre.length none ++ nextRow nc R (c0 :: C) := by
  cases pre with
  | nil => rfl
  | cons p0 pre' =>
    rw [List.cons_append, nextRow_cons, nextRow_cons]
    have e : List.replicate (p0 :: pre').length (none : Option Cell) ++ R =
        List.replicate pre'.length none ++ (none :: R) := by
      simp only [List.length_cons, List.replicate_succ']
      simp
    rw [e, zipGo_nones nc pre' (none :: R) (c0 :: C)]
    simp only [zipGo, pScore_none, nextM_none, ite_self, List.length_cons, List.replicate_succ, List.cons_append,
      cons_replicate_append]

theorem firstRow_nones (n0 : Nat) : ∀ (pre C : List Col), (∀ c ∈ pre, c.ch ≠ n0) →
    firstRow n0 (pre ++ C) 0 = List.replicate pre.length none ++ firstRow n0 C 0 := by
  intro pre
  induction pre with
  | nil => intro C _; rfl
  | cons c pre ih =>
    intro C h
    have hc : c.ch ≠ n0 := h c (by simp)
    simp only [List.cons_append, firstRow, hc, if_false, List.length_cons, List.replicate_succ, Nat.zero_sub]
    rw [ih C (fun d hd => h d (by simp [hd]))]

theorem allRows_nones (pre : List Col) (c0 : Col) (C : List Col) : ∀ (ns : List Nat) (R : List (Option Cell)),
    allRows (pre ++ c0 :: C) ns (List.replicate pre.length none ++ R) =
      List.replicate pre.length none ++ allRows (c0 :: C) ns R := by
  intro ns
  induction ns with
  | nil => intro R; rfl
  | cons nc ns ih =>
    intro R
    simp only [allRows]
    rw [nextRow_nones, ih]

theorem bestCell_nones : ∀ (k : Nat) (L : List (Option Cell)) (b : Option Cell),
    bestCell (List.replicate k none ++ L) b = bestCell L b := by
  intro k
  induction k with
  | zero => intro L b; rfl
  | succ k ih => intro L b; simp only [List.replicate_succ, List.cons_append, bestCell]; exact ih L b

theorem bestCell_append_nones : ∀ (L : List (Option Cell)) (k : Nat) (b : Option Cell),
    bestCell (L ++ List.replicate k none) b = bestCell L b := by
  intro L
  induction L with
  | nil => intro k b; simpa using bestCell_nones k [] b
  | cons c L ih =>
    intro k b
    cases c with
    | none => simp only [List.cons_append, bestCell]; exact ih k b
    | some c =>
      cases b with
      | none => simp only [List.cons_append, bestCell]; exact ih k _
      | some b => simp only [List.cons_append, bestCell]; exact ih k _

theorem zipGo_append (nc : Nat) : ∀ (r1 : List (Option Cell)) (c1 : List Col), r1.length = c1.length →
    ∀ (r2 : List (Option Cell)) (c2 : List Col) (prevM : Option Cell) (p : Option PCell),
      ∃ pm pp, zipGo nc (r1 ++ r2) (c1 ++ c2) prevM p = zipGo nc r1 c1 prevM p ++ zipGo nc r2 c2 pm pp
  | [], [], _, _, _, prevM, p => ⟨prevM, p, rfl⟩
  | [], _ :: _, h, _, _, _, _ => nomatch h
  | _ :: _, [], h, _, _, _, _ => nomatch h
  | m :: r1, c :: c1, h, r2, c2, prevM, p => by
    obtain ⟨pm, pp, e⟩ := zipGo_append nc r1 c1 (Nat.succ.inj h) r2 c2 m (pScore prevM p)
    exact ⟨pm, pp, by rw [List.cons_append, List.cons_append, zipGo, e]; rfl⟩

theorem zipGo_none_of_ch (nc : Nat) : ∀ (ms : List (Option Cell)) (cs : List Col) (prevM : Option Cell) (p : Option PCell),
    (∀ c ∈ cs, c.ch ≠ nc) → zipGo nc ms cs prevM p = List.replicate (min ms.length cs.length) none
  | [], _, _, _, _ => by simp [zipGo]
  | _ :: _, [], _, _, _ => by simp [zipGo]
  | m :: ms, c :: cs, prevM, p, h => by
    rw [zipGo, if_neg (h c List.mem_cons_self),
      zipGo_none_of_ch nc ms cs m _ (fun d hd => h d (List.mem_cons_of_mem _ hd)), List.length_cons, List.length_cons,
      Nat.succ_min_succ, List.replicate_succ]

/-- the row over `W ++ post` starts with the row over `W`; behind it come `|post|` cells, all empty when `nc` does not
    occur in `post` -/
theorem nextRow_suffix (nc : Nat) (w0 : Col) (W post : List Col) (rW rpost : List (Option Cell))
    (h1 : rW.length = (w0 :: W).length) (h2 : rpost.length = post.length) :
    ∃ T, nextRow nc (rW ++ rpost) ((w0 :: W) ++ post) = nextRow nc rW (w0 :: W) ++ T ∧ T.length = post.length ∧
      ((∀ c ∈ post, c.ch ≠ nc) → T = List.replicate post.length none) := by
  -- split the last cell off `rW`: the row step pairs it with the first column of `post`
  have hne : rW ≠ [] := List.ne_nil_of_length_eq_add_one h1
  obtain ⟨rwi, l, rfl⟩ : ∃ rwi l, rW = rwi ++ [l] := ⟨_, _, (List.dropLast_concat_getLast hne).symm⟩
  have hlen : rwi.length = W.length := by
    rw [List.length_append, List.length_cons, List.length_cons, List.length_nil] at h1
    exact Nat.succ.inj h1
  obtain ⟨pm, pp, e⟩ := zipGo_append nc rwi W hlen (l :: rpost) post none none
  obtain ⟨pm', pp', e'⟩ := zipGo_append nc rwi W hlen [l] [] none none
  rw [List.append_nil, show zipGo nc [l] [] pm' pp' = [] from rfl, List.append_nil] at e'
  rw [List.cons_append, nextRow_cons, nextRow_cons, List.append_assoc, List.singleton_append, e, e']
  refine ⟨zipGo nc (l :: rpost) post pm pp, rfl, ?_, fun hp => ?_⟩
  · rw [zipGo_length, List.length_cons, h2]; exact Nat.min_eq_right (Nat.le_succ _)
  · rw [zipGo_none_of_ch nc _ _ _ _ hp, List.length_cons, h2, Nat.min_eq_right (Nat.le_succ _)]

theorem firstRow_append (n0 : Nat) : ∀ (W post : List Col) (pb : Nat),
    ∃ pb', firstRow n0 (W ++ post) pb = firstRow n0 W pb ++ firstRow n0 post pb' := by
  intro W
  induction W with
  | nil => intro post pb; exact ⟨pb, rfl⟩
  | cons c W ih =>
    intro post pb
    obtain ⟨pb', e⟩ := ih post (pb - PENALTY_GAP_EXTENSION)
    exact ⟨pb', by simp only [List.cons_append, firstRow, e]⟩

theorem firstRow_none_of_ch (n0 : Nat) : ∀ (cs : List Col) (pb : Nat), (∀ c ∈ cs, c.ch ≠ n0) →
    firstRow n0 cs pb = List.replicate cs.length none := by
  intro cs
  induction cs with
  | nil => intro _ _; rfl
  | cons c cs ih =>
    intro pb h
    have hc : c.ch ≠ n0 := h c (by simp)
    simp only [firstRow, hc, if_false, List.length_cons, List.replicate_succ]
    rw [ih _ (fun d hd => h d (by simp [hd]))]

theorem allRows_suffix (w0 : Col) (W post : List Col) : ∀ (ns : List Nat) (nlast : Nat) (rW rpost : List (Option Cell)),
    rW.length = (w0 :: W).length → rpost.length = post.length → (∀ c ∈ post, c.ch ≠ nlast) →
    allRows ((w0 :: W) ++ post) (ns ++ [nlast]) (rW ++ rpost) =
      allRows (w0 :: W) (ns ++ [nlast]) rW ++ List.replicate post.length none := by
  intro ns
  induction ns with
  | nil =>
    intro nlast rW rpost h1 h2 hp
    simp only [List.nil_append, allRows]
    obtain ⟨T, e, _, hT⟩ := nextRow_suffix nlast w0 W post rW rpost h1 h2
    rw [e, hT hp]
  | cons nc ns ih =>
    intro nlast rW rpost h1 h2 hp
    rw [show (nc :: ns) ++ [nlast] = nc :: (ns ++ [nlast]) from rfl]
    simp only [allRows]
    obtain ⟨T, e, hl, _⟩ := nextRow_suffix nc w0 W post rW rpost h1 h2
    rw [e]
    exact ih nlast _ T (by rw [nextRow_length nc rW (w0 :: W) h1]) hl hp

end NucleoVerif
