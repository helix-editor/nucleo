import NucleoVerif.Model.Matcher
import NucleoVerif.Spec.Matcher
/-! First occurrences (`findIdx`, `rfindIdx`), the subsequence decision `subseqB`, and the two prefilters: the ASCII one
decides `subseqB` and returns a window that holds an embedding; what a `some` of the code-point one means. -/
namespace NucleoVerif.Sub
open Gen Spec

theorem findIdx_eq (p : Nat → Bool) : ∀ (l : List Nat), findIdx p l = l.findIdx? p := by
  intro l
  induction l with
  | nil => rfl
  | cons c cs ih => rw [findIdx, List.findIdx?_cons, ih]

theorem findIdx_isSome (p : Nat → Bool) (l : List Nat) : (findIdx p l).isSome = l.any p := by
  rw [findIdx_eq, List.findIdx?_isSome]

theorem findIdx_map (f : Nat → Nat) (p : Nat → Bool) (l : List Nat) : findIdx p (l.map f) = findIdx (fun x => p (f x)) l := by
  rw [findIdx_eq, findIdx_eq, List.findIdx?_map]; rfl

theorem findIdx_none (p : Nat → Bool) (l : List Nat) (h : findIdx p l = none) : ∀ x ∈ l, p x = false :=
  List.findIdx?_eq_none_iff.mp (findIdx_eq p l ▸ h)

theorem findIdx_some (p : Nat → Bool) (l : List Nat) (i : Nat) (h : findIdx p l = some i) :
    i < l.length ∧ (∃ x, l[i]? = some x ∧ p x = true) ∧ ∀ x ∈ l.take i, p x = false := by
  obtain ⟨hi, hp, hbefore⟩ := List.findIdx?_eq_some_iff_getElem.mp (findIdx_eq p l ▸ h)
  refine ⟨hi, ⟨l[i], List.getElem?_eq_getElem hi, hp⟩, fun x hx => ?_⟩
  obtain ⟨j, hj, rfl⟩ := List.getElem_of_mem hx
  rw [List.length_take] at hj
  rw [List.getElem_take]
  exact Bool.eq_false_iff.mpr (hbefore j (Nat.lt_of_lt_of_le hj (Nat.min_le_left _ _)))

theorem findIdx_take (p : Nat → Bool) (l : List Nat) (i m : Nat) (h : findIdx p l = some i) (hm : i < m) :
    findIdx p (l.take m) = some i := by
  rw [findIdx_eq] at h ⊢
  rw [List.findIdx?_take, h, Option.bind_some, Option.guard_eq_some_iff]
  exact ⟨rfl, decide_eq_true hm⟩

theorem findIdx_of_take (p : Nat → Bool) (l : List Nat) (i m : Nat) (h : findIdx p (l.take m) = some i) :
    findIdx p l = some i := by
  rw [findIdx_eq] at h ⊢
  rw [List.findIdx?_take] at h
  obtain ⟨j, hj, hg⟩ := Option.bind_eq_some_iff.mp h
  rw [hj, (Option.guard_eq_some_iff.mp hg).1]

theorem findIdx_take_some (p : Nat → Bool) (l : List Nat) (i m : Nat) (hf : findIdx p (l.take m) = some i) :
    ∃ hi : i < l.length, p l[i] = true := by
  obtain ⟨hi, ⟨x, f2, f3⟩, _⟩ := findIdx_some p l i (findIdx_of_take p l i m hf)
  rw [List.getElem?_eq_getElem hi] at f2
  cases f2
  exact ⟨hi, f3⟩

theorem findIdx_take_none_before (p : Nat → Bool) (l : List Nat) (m i : Nat) (h : findIdx p (l.take m) = some i) :
    ∀ x ∈ l.take i, p x = false := by
  obtain ⟨hlt, _, hbefore⟩ := findIdx_some p _ i h
  rw [List.length_take] at hlt
  rw [List.take_take, Nat.min_eq_left (Nat.le_of_lt (Nat.lt_of_lt_of_le hlt (Nat.min_le_left _ _)))] at hbefore
  exact hbefore

theorem findIdx_reverse_none_after (p : Nat → Bool) (l : List Nat) (k : Nat) (hk : findIdx p l.reverse = some k) :
    ∀ x ∈ l.drop (l.length - k), p x = false := by
  obtain ⟨hlt, _, hbefore⟩ := findIdx_some p l.reverse k hk
  rw [List.length_reverse] at hlt
  -- the last k elements of l are the first k of its reverse
  rw [← Nat.sub_sub_self (Nat.le_of_lt hlt), ← List.reverse_drop] at hbefore
  exact fun x hx => hbefore x (List.mem_reverse.mpr hx)

theorem rfindIdx_lt (p : Nat → Bool) (l : List Nat) (i : Nat) (h : rfindIdx p l = some i) : i < l.length := by
  obtain ⟨j, hj, rfl⟩ := Option.map_eq_some_iff.mp h
  have := (findIdx_some p _ j hj).1
  rw [List.length_reverse] at this
  omega

theorem rfindIdx_after (p : Nat → Bool) (l : List Nat) :
    ∀ x ∈ l.drop (match rfindIdx p l with | some i => i + 1 | none => 0), p x = false := by
  unfold rfindIdx
  cases hf : findIdx p l.reverse with
  | none => exact fun x hx => findIdx_none p _ hf x (List.mem_reverse.mpr hx)
  | some k =>
    have hk := (findIdx_some p _ k hf).1
    rw [List.length_reverse] at hk
    simp only [Option.map_some]
    rw [Nat.sub_sub, Nat.add_comm 1 k, Nat.sub_succ, Nat.add_one, Nat.succ_pred_eq_of_pos (Nat.sub_pos_of_lt hk)]
    exact findIdx_reverse_none_after p l k hf

theorem subseqB_nil (l : List Nat) : subseqB [] l = true := by cases l <;> rfl

theorem subseqB_first (f : Nat → Nat) (p : Nat → Bool) (a : Nat) (as : List Nat) :
    ∀ (l : List Nat), (∀ x ∈ l, p x = true ↔ f x = a) →
      subseqB (a :: as) (l.map f) =
        (match findIdx p l with
         | none => false
         | some i => subseqB as ((l.drop (i + 1)).map f)) := by
  intro l
  induction l with
  | nil => intro _; simp [subseqB, findIdx]
  | cons c cs ih =>
    intro hp
    simp only [List.map_cons, subseqB, findIdx]
    by_cases hc : p c = true
    · have := (hp c (by simp)).mp hc
      simp [hc, this]
    · have hc' : p c = false := by simpa using hc
      have hne : ¬ (a = f c) := fun e => hc ((hp c (by simp)).mpr e.symm)
      simp only [hne, if_false, hc', Bool.false_eq_true]
      rw [ih (fun x hx => hp x (by simp [hx]))]
      cases findIdx p cs with
      | none => rfl
      | some i => simp

theorem subseqB_iff_sublist (n h : List Nat) : subseqB n h = true ↔ List.Sublist n h := by
  induction h generalizing n with
  | nil =>
    cases n with
    | nil => simp [subseqB]
    | cons a as => simp [subseqB]
  | cons b bs ih =>
    cases n with
    | nil => simp [subseqB]
    | cons a as =>
      simp only [subseqB]
      by_cases e : a = b
      · subst e
        simp only [if_true, ih, List.cons_sublist_cons]
      · simp only [e, if_false, ih]
        constructor
        · exact fun h => List.Sublist.cons _ h
        · intro h
          cases h with
          | cons _ h => exact h
          | cons_cons _ h => exact absurd rfl e

theorem subseqB_length (n l : List Nat) (h : subseqB n l = true) : n.length ≤ l.length :=
  ((subseqB_iff_sublist n l).mp h).length_le

theorem subseqB_of_sublist_hay (n l l' : List Nat) (h : subseqB n l = true) (hl : List.Sublist l l') : subseqB n l' = true :=
  (subseqB_iff_sublist n l').mpr (((subseqB_iff_sublist n l).mp h).trans hl)

theorem subseqB_drop_mono (n l : List Nat) (k : Nat) (h : subseqB n (l.drop k) = true) : subseqB n l = true :=
  subseqB_of_sublist_hay n _ l h (List.drop_sublist k l)

theorem asciiEq_iff (cfg : Cfg) (c x : Nat) (hc : normAscii cfg c = c) :
    asciiEq cfg.ignoreCase c x = true ↔ normAscii cfg x = c := by
  -- an already-normalized `c` is not an upper-case letter when case is ignored
  have hcu : ¬ (cfg.ignoreCase = true ∧ 65 ≤ c ∧ c ≤ 90) := fun hu => by rw [normAscii, if_pos hu] at hc; omega
  unfold asciiEq normAscii
  cases hi : cfg.ignoreCase with
  | false => simp
  | true =>
    simp only [hi, true_and, Bool.true_and, Bool.or_eq_true, Bool.and_eq_true, decide_eq_true_eq] at hcu ⊢
    split <;> omega

/-- the first needle character has to occur where the rest of the needle still fits behind it -/
theorem subseqB_first_fits (f : Nat → Nat) (p : Nat → Bool) (a : Nat) (as : List Nat) (l : List Nat)
    (hp : ∀ x ∈ l, p x = true ↔ f x = a) :
    subseqB (a :: as) (l.map f) =
      (match findIdx p (l.take (l.length - (a :: as).length + 1)) with
       | none => false
       | some i => subseqB as ((l.drop (i + 1)).map f)) := by
  rw [subseqB_first f p a as l hp]
  cases hfull : findIdx p l with
  | none =>
    cases hf : findIdx p (l.take (l.length - (a :: as).length + 1)) with
    | none => rfl
    | some i => rw [findIdx_of_take p l i _ hf] at hfull; cases hfull
  | some i =>
    by_cases hi : i < l.length - (a :: as).length + 1
    · rw [findIdx_take p l i _ hfull hi]
    · -- too late for the rest of the needle to fit
      cases hf : findIdx p (l.take (l.length - (a :: as).length + 1)) with
      | some j => rw [findIdx_of_take p l j _ hf] at hfull; cases hfull; rfl
      | none =>
        dsimp only
        cases hs : subseqB as ((l.drop (i + 1)).map f) with
        | false => rfl
        | true =>
          have := subseqB_length as _ hs
          rw [List.length_map, List.length_drop] at this
          rw [List.length_cons] at hi
          have := (findIdx_some p l i hfull).1
          omega

theorem asciiGreedyScan_spec (cfg : Cfg) :
    ∀ (ns : List Nat) (hay : List Nat) (ge : Nat), (∀ c ∈ ns, normAscii cfg c = c) →
      (asciiGreedyScan cfg.ignoreCase ns hay ge).isSome = subseqB ns (hay.map (normAscii cfg)) ∧
      ∀ ge' rest, asciiGreedyScan cfg.ignoreCase ns hay ge = some (ge', rest) →
        ∃ k, k ≤ hay.length ∧ rest = hay.drop k ∧ ge' = ge + k ∧ ns.length ≤ k ∧
          subseqB ns ((hay.take k).map (normAscii cfg)) = true := by
  intro ns
  induction ns with
  | nil =>
    intro hay ge _
    rw [asciiGreedyScan, subseqB]
    refine ⟨rfl, fun ge' rest h => ?_⟩
    cases h
    exact ⟨0, Nat.zero_le _, rfl, rfl, Nat.le_refl _, by rw [subseqB]⟩
  | cons c cs ih =>
    intro hay ge hn
    have hp : ∀ (l : List Nat), ∀ x ∈ l, asciiEq cfg.ignoreCase c x = true ↔ normAscii cfg x = c :=
      fun _ x _ => asciiEq_iff cfg c x (hn c List.mem_cons_self)
    rw [asciiGreedyScan, subseqB_first (normAscii cfg) (asciiEq cfg.ignoreCase c) c cs hay (hp hay)]
    cases hf : findIdx (asciiEq cfg.ignoreCase c) hay with
    | none => exact ⟨rfl, fun _ _ h => by cases h⟩
    | some i =>
      obtain ⟨ih1, ih2⟩ := ih (hay.drop (i + 1)) (ge + i + 1) (fun c hc => hn c (List.mem_cons_of_mem _ hc))
      refine ⟨ih1, fun ge' rest h => ?_⟩
      obtain ⟨k, hk1, hk2, hk3, hk4, hk5⟩ := ih2 ge' rest h
      have hi := (findIdx_some _ hay i hf).1
      rw [List.length_drop] at hk1
      refine ⟨i + 1 + k, by omega, by rw [hk2, List.drop_drop], by omega, by rw [List.length_cons]; omega, ?_⟩
      -- the first hit inside the consumed prefix is the same one
      rw [subseqB_first (normAscii cfg) (asciiEq cfg.ignoreCase c) c cs _ (hp _),
        findIdx_take _ hay i (i + 1 + k) hf (by omega)]
      dsimp only
      rw [List.drop_take, Nat.add_sub_cancel_left]
      exact hk5

theorem prefilterAscii_eq_some {cfg : Cfg} {h : List Nat} {n0 : Nat} {ns : List Nat} {og : Bool} {start ge e : Nat}
    (hp : prefilterAscii cfg h (n0 :: ns) og = some (start, ge, e)) :
    findIdx (asciiEq cfg.ignoreCase n0) (h.take (h.length - (n0 :: ns).length + 1)) = some start ∧
    ∃ rest, asciiGreedyScan cfg.ignoreCase ns (h.drop (start + 1)) (start + 1) = some (ge, rest) ∧
      e = if og then ge else
        ge + (match rfindIdx (asciiEq cfg.ignoreCase ((n0 :: ns).getLast?.getD n0)) rest with | some i => i + 1 | none => 0) := by
  unfold prefilterAscii at hp
  simp only at hp
  cases hf : findIdx (asciiEq cfg.ignoreCase n0) (h.take (h.length - (n0 :: ns).length + 1)) with
  | none => rw [hf] at hp; cases hp
  | some st =>
    rw [hf] at hp
    simp only at hp
    cases hg : asciiGreedyScan cfg.ignoreCase ns (h.drop (st + 1)) (st + 1) with
    | none => rw [hg] at hp; cases hp
    | some r =>
      obtain ⟨ge', rest⟩ := r
      rw [hg] at hp
      simp only at hp
      split at hp <;> cases hp
      · exact ⟨rfl, rest, hg, (if_pos ‹og = true›).symm⟩
      · exact ⟨rfl, rest, hg, (if_neg ‹¬ og = true›).symm⟩

theorem prefilterAscii_spec (cfg : Cfg) (h : List Nat) (n0 : Nat) (ns : List Nat) (og : Bool)
    (hn : ∀ c ∈ n0 :: ns, normAscii cfg c = c) :
    (prefilterAscii cfg h (n0 :: ns) og).isSome = subseqB (n0 :: ns) (h.map (normAscii cfg)) ∧
    ∀ start ge e, prefilterAscii cfg h (n0 :: ns) og = some (start, ge, e) →
      start < ge ∧ ge ≤ e ∧ e ≤ h.length ∧ start + (n0 :: ns).length ≤ ge ∧
      subseqB (n0 :: ns) (((h.drop start).take (ge - start)).map (normAscii cfg)) = true := by
  have hc0 := hn n0 List.mem_cons_self
  have hns : ∀ c ∈ ns, normAscii cfg c = c := fun c hc => hn c (List.mem_cons_of_mem _ hc)
  constructor
  · rw [subseqB_first_fits (normAscii cfg) (asciiEq cfg.ignoreCase n0) n0 ns h (fun x _ => asciiEq_iff cfg n0 x hc0)]
    unfold prefilterAscii
    simp only
    cases findIdx (asciiEq cfg.ignoreCase n0) (h.take (h.length - (n0 :: ns).length + 1)) with
    | none => rfl
    | some start =>
      simp only
      rw [← (asciiGreedyScan_spec cfg ns (h.drop (start + 1)) (start + 1) hns).1]
      cases asciiGreedyScan cfg.ignoreCase ns (h.drop (start + 1)) (start + 1) with
      | none => rfl
      | some r => simp only; split <;> rfl
  · intro start ge e hp
    obtain ⟨hf, rest, hg, rfl⟩ := prefilterAscii_eq_some hp
    obtain ⟨hst, ⟨x, hx1, hx2⟩, _⟩ := findIdx_some _ h start (findIdx_of_take _ h start _ hf)
    obtain ⟨k, hk1, hk2, hk3, hk4, hk5⟩ := (asciiGreedyScan_spec cfg ns (h.drop (start + 1)) (start + 1) hns).2 ge rest hg
    have hge : ge ≤ h.length := by rw [List.length_drop] at hk1; omega
    clear hk1
    have hwin : subseqB (n0 :: ns) (((h.drop start).take (ge - start)).map (normAscii cfg)) = true := by
      rw [List.getElem?_eq_getElem hst, Option.some.injEq] at hx1
      rw [List.drop_eq_getElem_cons hst, show ge - start = k + 1 by omega, List.take_succ_cons, List.map_cons, subseqB,
        hx1, if_pos ((asciiEq_iff cfg n0 x hc0).mp hx2).symm]
      exact hk5
    have hrl : ge + rest.length = h.length := by
      rw [hk2, List.length_drop, List.length_drop, Nat.sub_sub, ← hk3, Nat.add_sub_cancel' hge]
    refine ⟨by omega, ?_, ?_, by rw [List.length_cons]; omega, hwin⟩
    · split
      · exact Nat.le_refl _
      · exact Nat.le_add_right _ _
    · rw [← hrl]; split
      · exact Nat.le_add_right _ _
      · refine Nat.add_le_add_left ?_ ge
        split
        · exact rfindIdx_lt _ _ _ ‹_›
        · exact Nat.zero_le _

theorem prefilterNonAscii_eq_some {cfg : Cfg} {h : List Nat} {n0 : Nat} {ns : List Nat} {og : Bool} {start e : Nat}
    (hp : prefilterNonAscii cfg h (n0 :: ns) og = some (start, e)) :
    findIdx (fun c => normChar cfg c = n0) (h.take (h.length - (n0 :: ns).length + 1)) = some start ∧
    if og then e = start + 1 ∧ (n0 :: ns).length ≤ h.length - start else
      ∃ p, findIdx (fun c => normChar cfg c = (n0 :: ns).getLast?.getD n0) (h.drop (start + 1)).reverse = some p ∧
        e = h.length - p ∧ (n0 :: ns).length ≤ e - start := by
  unfold prefilterNonAscii at hp
  simp only at hp
  cases hf : findIdx (fun c => decide (normChar cfg c = n0)) (h.take (h.length - (n0 :: ns).length + 1)) with
  | none => rw [hf] at hp; cases hp
  | some st =>
    rw [hf] at hp
    cases og
    · simp only [Bool.false_eq_true, if_false] at hp ⊢
      cases hr : findIdx (fun c => decide (normChar cfg c = (n0 :: ns).getLast?.getD n0)) (h.drop (st + 1)).reverse with
      | none => rw [hr] at hp; cases hp
      | some p =>
        rw [hr] at hp
        simp only at hp
        split at hp <;> cases hp
        exact ⟨rfl, p, hr, rfl, Nat.le_of_not_lt ‹_›⟩
    · simp only [if_true] at hp ⊢
      split at hp <;> cases hp
      exact ⟨rfl, rfl, Nat.le_of_not_lt ‹_›⟩

end NucleoVerif.Sub
