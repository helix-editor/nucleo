import NucleoVerif.Lemmas.SortBase
open Std.Do
namespace NucleoVerif.PS
open Gen
set_option mvcgen.warning false
variable {α : Type} [Inhabited α] {a0 : Array α} (lt : α → α → Bool)

/-- node `i` of the heap `v[lo .. lo+len)` is not smaller than its children -/
def HeapAt (lo len : Nat) (b : Array α) (i : Nat) : Prop :=
  (2 * i + 1 < len → lt (at' b (lo + i)) (at' b (lo + (2 * i + 1))) = false) ∧
  (2 * i + 2 < len → lt (at' b (lo + i)) (at' b (lo + (2 * i + 2))) = false)

/-- the nodes from `start` on are in heap order; the build loop lowers `start` node by node -/
def HeapFrom (lo len start : Nat) (b : Array α) : Prop := ∀ i, start ≤ i → i < len → HeapAt lt lo len b i

/-- the heap property holds from `start` on except at `node`, whose parent (if it is in range) already dominates
    `node`'s children -/
structure SiftInv (lo len start node : Nat) (b : Array α) : Prop where
  others : ∀ i, start ≤ i → i < len → i ≠ node → HeapAt lt lo len b i
  grand : ∀ q, start ≤ q → (2 * q + 1 = node ∨ 2 * q + 2 = node) →
    (2 * node + 1 < len → lt (at' b (lo + q)) (at' b (lo + (2 * node + 1))) = false) ∧
    (2 * node + 2 < len → lt (at' b (lo + q)) (at' b (lo + (2 * node + 2))) = false)

/-- "`q` is not smaller than the children of `i`", as the heap predicates spell it out child by child, says the same of
    every child `k` of `i`; with `q = i` the left side is `HeapAt lt lo len b i` -/
theorem dominates_iff {lo len q i : Nat} {b : Array α} :
    ((2 * i + 1 < len → lt (at' b (lo + q)) (at' b (lo + (2 * i + 1))) = false) ∧
     (2 * i + 2 < len → lt (at' b (lo + q)) (at' b (lo + (2 * i + 2))) = false)) ↔
    ∀ k, (k = 2 * i + 1 ∨ k = 2 * i + 2) → k < len → lt (at' b (lo + q)) (at' b (lo + k)) = false := by
  constructor
  · intro hd k hk hkl
    rcases hk with rfl | rfl
    · exact hd.1 hkl
    · exact hd.2 hkl
  · exact fun hd => ⟨hd _ (Or.inl rfl), hd _ (Or.inr rfl)⟩

theorem child_gt {i k : Nat} (h : k = 2 * i + 1 ∨ k = 2 * i + 2) : i < k := by omega

theorem parent_unique {i j k : Nat} (hi : k = 2 * i + 1 ∨ k = 2 * i + 2) (hj : k = 2 * j + 1 ∨ k = 2 * j + 2) : i = j := by
  omega

theorem SiftInv.leaf {lo len start node : Nat} {b : Array α} (h : SiftInv lt lo len start node b) (hc : 2 * node + 1 ≥ len) :
    HeapFrom lt lo len start b := by
  intro i h1 h2
  by_cases e : i = node
  · rw [e]; exact ⟨fun h => absurd h (Nat.not_lt.2 hc), fun h => absurd (Nat.lt_of_succ_lt h) (Nat.not_lt.2 hc)⟩
  · exact h.others i h1 h2 e

/-- `child` is a child of `node` inside the heap that no child of `node` exceeds -/
def GreaterChild (lo len node child : Nat) (b : Array α) : Prop :=
  (child = 2 * node + 1 ∨ child = 2 * node + 2) ∧ child < len ∧
  ∀ k, (k = 2 * node + 1 ∨ k = 2 * node + 2) → k < len → lt (at' b (lo + child)) (at' b (lo + k)) = false

theorem GreaterChild.left (h : SWO lt) {lo len node : Nat} {b : Array α} (hc : 2 * node + 1 < len)
    (hr : ¬ (2 * node + 1 + 1 < len ∧ lt (at' b (lo + (2 * node + 1))) (at' b (lo + (2 * node + 1) + 1)) = true)) :
    GreaterChild lt lo len node (2 * node + 1) b := by
  refine ⟨Or.inl rfl, hc, fun k hk hkl => ?_⟩
  rcases hk with rfl | rfl
  · exact h.irrefl _
  · cases hx : lt (at' b (lo + (2 * node + 1))) (at' b (lo + (2 * node + 2))) with
    | false => rfl
    | true => exact absurd ⟨hkl, hx⟩ hr

theorem GreaterChild.right (h : SWO lt) {lo len node : Nat} {b : Array α} (hc : 2 * node + 1 + 1 < len)
    (hr : lt (at' b (lo + (2 * node + 1))) (at' b (lo + (2 * node + 1) + 1)) = true) :
    GreaterChild lt lo len node (2 * node + 1 + 1) b := by
  refine ⟨Or.inr rfl, hc, fun k hk hkl => ?_⟩
  rcases hk with rfl | rfl
  · exact h.asym _ _ hr
  · exact h.irrefl _

theorem SiftInv.stop (h : SWO lt) {lo len start node child : Nat} {b : Array α} (inv : SiftInv lt lo len start node b)
    (g : GreaterChild lt lo len node child b)
    (hstop : lt (at' b (lo + node)) (at' b (lo + child)) = false) : HeapFrom lt lo len start b := by
  intro i h1 h2
  by_cases e : i = node
  · rw [e]; exact (dominates_iff lt).2 fun k hk hkl => h.le_trans _ _ _ (g.2.2 k hk hkl) hstop
  · exact inv.others i h1 h2 e

theorem SiftInv.down (h : SWO lt) {lo len start node child : Nat} {b : Array α} (inv : SiftInv lt lo len start node b)
    (hn : start ≤ node) (g : GreaterChild lt lo len node child b) (hsz : lo + len ≤ b.size)
    (hgo : lt (at' b (lo + node)) (at' b (lo + child)) = true) :
    Frame lo (lo + len) b (b.swapIfInBounds (lo + node) (lo + child)) ∧
    SiftInv lt lo len start child (b.swapIfInBounds (lo + node) (lo + child)) ∧ node < child := by
  obtain ⟨hch, hcl, hmax⟩ := g
  have hnc := child_gt hch
  refine ⟨Frame.swap lo (lo + len) b _ _ (Nat.le_add_right _ _) (Nat.add_lt_add_left (Nat.lt_trans hnc hcl) _)
    (Nat.le_add_right _ _) (Nat.add_lt_add_left hcl _), ?_, hnc⟩
  have hbc : lo + child < b.size := Nat.lt_of_lt_of_le (Nat.add_lt_add_left hcl lo) hsz
  have hbn : lo + node < b.size := Nat.lt_trans (Nat.add_lt_add_left hnc lo) hbc
  have at_n := at_swap_left b _ _ hbn hbc
  have at_c := at_swap_right b _ _ hbn hbc
  have at_o := fun k (h1 : k ≠ node) (h2 : k ≠ child) => at_swap_add_ne b hbn hbc h1 h2
  refine ⟨fun i h1 h2 hne => (dominates_iff lt).2 fun k hk hkl => ?_,
    fun q hq hpar => (dominates_iff lt).2 fun k hk hkl => ?_⟩
  · by_cases e : i = node
    · -- `node` now holds its old greater child
      rw [e, at_n]
      by_cases ek : k = child
      · rw [ek, at_c]; exact h.asym _ _ hgo
      · rw [at_o k (Nat.ne_of_gt (child_gt (e ▸ hk))) ek]; exact hmax k (e ▸ hk) hkl
    · rw [at_o i e hne]
      by_cases ek : k = node
      · -- `i` is the parent of `node`, which held both children of `node` under it
        rw [ek, at_n]; exact (dominates_iff lt).1 (inv.grand i h1 ((ek ▸ hk).imp Eq.symm Eq.symm)) child hch hcl
      · rw [at_o k ek fun ec => e (parent_unique (ec ▸ hk) hch)]; exact (dominates_iff lt).1 (inv.others i h1 h2 e) k hk hkl
  · -- the parent of `child` is `node`, now holding the old value of `child`, which dominated the children of `child`
    have hkc := child_gt hk
    rw [parent_unique (hpar.imp Eq.symm Eq.symm) hch, at_n, at_o k (Nat.ne_of_gt (Nat.lt_trans hnc hkc)) (Nat.ne_of_gt hkc)]
    exact (dominates_iff lt).1 (inv.others child (Nat.le_trans hn (Nat.le_of_lt hnc)) hcl (Nat.ne_of_gt hnc)) k hk hkl

theorem HeapFrom.siftInv {lo len node : Nat} {b : Array α} (hh : HeapFrom lt lo len (node + 1) b) :
    SiftInv lt lo len node node b :=
  ⟨fun i h1 h2 hne => hh i (Nat.lt_of_le_of_ne h1 (Ne.symm hne)) h2, fun q h1 h2 => by omega⟩

/-- sifting `node` down extends a heap that begins behind `node` to one that begins at `node` -/
theorem siftDown_spec (h : SWO lt) (lo len node : Nat) (b : Array α) :
   ⦃fun s => ⌜s.val = b ∧ HeapFrom lt lo len (node + 1) b ∧ lo + len ≤ b.size⌝⦄
   (siftDown (a0 := a0) lt lo len node)
   ⦃⇓ _ s => ⌜Frame lo (lo + len) b s.val ∧ HeapFrom lt lo len node s.val⌝⦄ := by
  mvcgen -trivial -leave [siftDown, rd_spec, swp_spec]
  case inv1 =>
    exact ⇓ ⟨xs, node'⟩ s => ⌜Frame lo (lo + len) b s.val ∧
      ((xs.suffix.length = 0 ∧ HeapFrom lt lo len node s.val) ∨
       (SiftInv lt lo len node node' s.val ∧ node ≤ node' ∧ xs.prefix.length ≤ node'))⌝
  case vc1 => -- `node` has no child: `break`
    rename_i hge s hinv
    have inv := (running_of_cons hinv.2).1
    exact SPred.pure_intro ⟨hinv.1, Or.inl ⟨rfl, inv.leaf lt hge⟩⟩
  case vc2 => -- the right child is the greater one and not greater than `node`: `break`
    rename_i hlt s hinv _ hc child' hstop
    have inv := (running_of_cons hinv.2).1
    have g := GreaterChild.right lt h hc.1 hc.2
    exact SPred.pure_intro ⟨hinv.1, Or.inl ⟨rfl, inv.stop lt h g ((Bool.not_eq_true' _).mp hstop)⟩⟩
  case vc3 => -- the right child is the greater one and greater than `node`: swap and descend
    rename_i s0 hpre pref cur suff hsplit nd child hlt s hinv _ hc child' hgo
    obtain ⟨f, hinv⟩ := hinv
    obtain ⟨inv, hst, hcnt⟩ := running_of_cons hinv
    have g := GreaterChild.right lt h hc.1 hc.2
    obtain ⟨fs, inv', hnc⟩ := inv.down lt h hst g (f.size ▸ hpre.2.2) (eq_true_of_not_bnot hgo)
    exact SPred.pure_intro ⟨f.trans fs, Or.inr ⟨inv', Nat.le_trans hst (Nat.le_of_lt hnc),
      by rw [List.length_append]; exact Nat.lt_of_le_of_lt hcnt hnc⟩⟩
  case vc4 => -- the left child is the greater one and not greater than `node`: `break`
    rename_i hlt s hinv _ hc hstop
    have inv := (running_of_cons hinv.2).1
    have g := GreaterChild.left lt h (Nat.not_le.1 hlt) hc
    exact SPred.pure_intro ⟨hinv.1, Or.inl ⟨rfl, inv.stop lt h g ((Bool.not_eq_true' _).mp hstop)⟩⟩
  case vc5 => -- the left child is the greater one and greater than `node`: swap and descend
    rename_i s0 hpre pref cur suff hsplit nd child hlt s hinv _ hc hgo
    obtain ⟨f, hinv⟩ := hinv
    obtain ⟨inv, hst, hcnt⟩ := running_of_cons hinv
    have g := GreaterChild.left lt h (Nat.not_le.1 hlt) hc
    obtain ⟨fs, inv', hnc⟩ := inv.down lt h hst g (f.size ▸ hpre.2.2) (eq_true_of_not_bnot hgo)
    exact SPred.pure_intro ⟨f.trans fs, Or.inr ⟨inv', Nat.le_trans hst (Nat.le_of_lt hnc),
      by rw [List.length_append]; exact Nat.lt_of_le_of_lt hcnt hnc⟩⟩
  case vc6 => -- on entry
    rename_i s hpre
    exact SPred.pure_intro
      ⟨hpre.1 ▸ Frame.refl _ _ _, Or.inr ⟨hpre.1 ▸ hpre.2.1.siftInv lt, Nat.le_refl _, Nat.zero_le _⟩⟩
  case vc7 => -- after the loop
    rename_i s0 hpre nd s hinv
    refine SPred.pure_intro ⟨hinv.1, hinv.2.elim (fun hh => hh.2) fun ⟨inv, hst, hcnt⟩ => inv.leaf lt ?_⟩
    -- all `len` iterations done: the node has run out of the heap
    rw [range_length] at hcnt
    omega

theorem heap_root_max (h : SWO lt) {lo m : Nat} {b : Array α} (hp : HeapFrom lt lo m 0 b) :
    ∀ x, x < m → lt (at' b lo) (at' b (lo + x)) = false := by
  intro x
  induction x using Nat.strongRecOn with
  | _ x ih =>
    intro hx
    by_cases e : x = 0
    · rw [e]; exact h.irrefl _
    · -- through the parent `(x - 1) / 2` of `x`
      have hq : (x = 2 * ((x - 1) / 2) + 1 ∨ x = 2 * ((x - 1) / 2) + 2) ∧ (x - 1) / 2 < x := by omega
      have hqm := Nat.lt_trans hq.2 hx
      exact h.le_trans _ _ _ ((dominates_iff lt).1 (hp _ (Nat.zero_le _) hqm) x hq.1 hx) (ih _ hq.2 hqm)

theorem HeapFrom.of_half {lo len start : Nat} {b : Array α} (hs : len / 2 ≤ start) : HeapFrom lt lo len start b := by
  intro i h1 h2
  exact ⟨fun h3 => by omega, fun h3 => by omega⟩

/-- the index `hi' - 1 - k` of a loop that counts `k` up over `[0 : hi' - lo')` in order to run down from `hi' - 1` to `lo'` -/
theorem range_split_rev {lo' hi' : Nat} {pref suff : List Nat} {cur : Nat} (h : [0:hi' - lo'].toList = pref ++ cur :: suff) :
    hi' - 1 - cur = lo' + suff.length ∧ lo' < hi' := by
  have := range_split h
  omega

/-- invariant of the pop loop: the first `m` elements are a heap, the rest is sorted and not smaller than any of them -/
structure PopInv (lo hi : Nat) (a : Array α) (m : Nat) (b : Array α) : Prop where
  frame : Frame lo hi a b
  heap : HeapFrom lt lo m 0 b
  sorted : Sorted lt (lo + m) hi b
  le : ∀ x y, x < m → m ≤ y → y < hi - lo → lt (at' b (lo + y)) (at' b (lo + x)) = false

theorem PopInv.init {lo hi : Nat} {a b : Array α} (f : Frame lo hi a b) (hh : HeapFrom lt lo (hi - lo) 0 b) :
    PopInv lt lo hi a (hi - lo) b :=
  ⟨f, hh, fun i j h1 h2 h3 => by omega, fun x y h1 h2 h3 => absurd h3 (Nat.not_lt.2 h2)⟩

/-- the root goes behind the heap of `k + 1` elements; the last leaf takes its place, the other nodes are in heap order -/
theorem PopInv.swap_sift {lo hi : Nat} {a b : Array α} {k : Nat} (p : PopInv lt lo hi a (k + 1) b) (hk : 1 ≤ k)
    (hkh : k < hi - lo) (hsz : hi ≤ b.size) : HeapFrom lt lo k 1 (b.swapIfInBounds lo (lo + k)) := by
  have hb0 : lo + 0 < b.size := by omega
  have hbk : lo + k < b.size := by omega
  have at_o : ∀ x, x ≠ 0 → x ≠ k → at' (b.swapIfInBounds lo (lo + k)) (lo + x) = at' b (lo + x) :=
    fun x h1 h2 => at_swap_add_ne b (lo := lo) (i := 0) (j := k) hb0 hbk h1 h2
  refine fun j h1 h2 => (dominates_iff lt).2 fun c hc hck => ?_
  rw [at_o j (Nat.ne_of_gt h1) (Nat.ne_of_lt h2), at_o c (by omega) (Nat.ne_of_lt hck)]
  exact (dominates_iff lt).1 (p.heap j (Nat.zero_le _) (Nat.lt_succ_of_lt h2)) c hc (Nat.lt_succ_of_lt hck)

theorem PopInv.next (h : SWO lt) {lo hi : Nat} {a b s : Array α} {k : Nat} (p : PopInv lt lo hi a (k + 1) b) (hk : 1 ≤ k)
    (hkh : k < hi - lo) (hsz : hi ≤ b.size) (f : Frame lo (lo + k) (b.swapIfInBounds lo (lo + k)) s)
    (hh : HeapFrom lt lo k 0 s) : PopInv lt lo hi a k s := by
  have hb0 : lo + 0 < b.size := by omega
  have hbk : lo + k < b.size := by omega
  have hkhi : lo + k < hi := by omega
  have at_o : ∀ x, x ≠ 0 → x ≠ k → at' (b.swapIfInBounds lo (lo + k)) (lo + x) = at' b (lo + x) :=
    fun x h1 h2 => at_swap_add_ne b (lo := lo) (i := 0) (j := k) hb0 hbk h1 h2
  have at_0 : at' (b.swapIfInBounds lo (lo + k)) (lo + 0) = at' b (lo + k) := at_swap_left b _ _ hb0 hbk
  have at_k : at' (b.swapIfInBounds lo (lo + k)) (lo + k) = at' b lo := at_swap_right b _ _ hb0 hbk
  -- behind the new heap: the old root, then what was there before
  have hroot : at' s (lo + k) = at' b lo := by rw [f.out _ (Or.inr (Nat.le_refl _)), at_k]
  have hrest : ∀ y, k < y → at' s (lo + y) = at' b (lo + y) := fun y hy => by
    rw [f.out _ (Or.inr (Nat.add_le_add_left (Nat.le_of_lt hy) _)),
      at_o y (Nat.ne_of_gt (Nat.zero_lt_of_lt hy)) (Nat.ne_of_gt hy)]
  -- every element of the new heap is an element of the old heap
  have hall : ∀ P : α → Prop, (∀ x, x < k + 1 → P (at' b (lo + x))) → ∀ x, x < k → P (at' s (lo + x)) := by
    intro P hP
    refine (f.all P (SegAll.of_offsets (lo := lo) (m := 0) fun x _ hx => ?_)).offsets
    by_cases e : x = 0
    · rw [e, at_0]; exact hP k (Nat.lt_succ_self k)
    · rw [at_o x e (Nat.ne_of_lt hx)]; exact hP x (Nat.lt_succ_of_lt hx)
  refine ⟨p.frame.trans ((Frame.swap lo hi b _ _ (Nat.le_refl _) (by omega) (Nat.le_add_right _ _) hkhi).trans
    (f.mono (Nat.le_refl _) (Nat.le_of_lt hkhi))), hh, ?_, ?_⟩
  · intro i j h1 h2 h3
    obtain ⟨y, rfl⟩ := Nat.exists_eq_add_of_le (Nat.le_trans (Nat.le_add_right lo k) (Nat.le_trans h1 (Nat.le_of_lt h2)))
    have hy : k < y := by omega
    rw [hrest y hy]
    by_cases e : i = lo + k
    · rw [e, hroot]; exact p.le 0 y (Nat.succ_pos k) hy (by omega)
    · obtain ⟨x, rfl⟩ := Nat.exists_eq_add_of_le (Nat.le_trans (Nat.le_add_right lo k) h1)
      rw [hrest x (by omega)]
      exact p.sorted _ _ (by omega) h2 h3
  · intro x y hx hy hyh
    by_cases e : y = k
    · rw [e, hroot]; exact hall (fun v => lt (at' b lo) v = false) (heap_root_max lt h p.heap) x hx
    · have hy' : k < y := Nat.lt_of_le_of_ne hy (Ne.symm e)
      rw [hrest y hy']
      exact hall (fun v => lt (at' b (lo + y)) v = false) (fun x hx => p.le x y hx hy' hyh) x hx

theorem PopInv.finish {lo hi : Nat} {a b : Array α} {m : Nat} (p : PopInv lt lo hi a m b) (hm : m ≤ 1) :
    Frame lo hi a b ∧ Sorted lt lo hi b := by
  refine ⟨p.frame, fun i j h1 h2 h3 => ?_⟩
  by_cases e : lo + m ≤ i
  · exact p.sorted i j e h2 h3
  · obtain ⟨y, rfl⟩ := Nat.exists_eq_add_of_le (Nat.le_trans h1 (Nat.le_of_lt h2))
    have hi0 : i = lo := by omega
    rw [hi0]
    exact p.le 0 y (by omega) (by omega) (by omega)

/-- the indices of one iteration of the pop loop, `k = len - 1 - cur` being the position that receives the root -/
theorem pop_index {len cur p q : Nat} (h : cur = 0 + p ∧ p + 1 + q = len - 1 - 0) :
    len - p = len - 1 - cur + 1 ∧ len - (p + 1) = len - 1 - cur ∧ 1 ≤ len - 1 - cur ∧ len - 1 - cur < len := by
  omega

theorem heapsort_spec (h : SWO lt) : HeapsortSpec lt := by
  intro a0 lo hi a
  have hSD := siftDown_spec (a0 := a0) lt h
  mvcgen -trivial -leave [heapsort, swp_spec, hSD]
  -- The loop ranges `PS_heapBuildLo/Hi`, `PS_heapPopLo/Hi` (`Gen/Boxcar.lean`, translated from the source) are unfolded
  -- by definitional equality: in the `show`s, in `hpos` and in the hypothesis of `pop_index`.
  case inv1 =>
    exact ⇓ ⟨xs, _⟩ s => ⌜Frame lo hi a s.val ∧ HeapFrom lt lo (hi - lo) xs.suffix.length s.val⌝
  case inv2 =>
    exact ⇓ ⟨xs, _⟩ s => ⌜PopInv lt lo hi a (hi - lo - xs.prefix.length) s.val⌝
  case vc1 => -- build loop: the precondition of `siftDown` at node `len / 2 - 1 - cur`
    rename_i len s0 hpre pref cur suff hsplit u s hinv
    have hr := range_split_rev hsplit
    have hpos : 0 < (hi - lo) / 2 := hr.2
    refine SPred.pure_intro ⟨rfl, ?_, ?_⟩
    · rw [hr.1.trans (Nat.zero_add _)]; exact hinv.2
    · rw [hinv.1.size]; show lo + (hi - lo) ≤ a.size; omega
  case vc2 => -- build loop: the invariant after it
    rename_i len s0 hpre pref cur suff hsplit u s1 hinv r s hpost
    have hr := range_split_rev hsplit
    rw [hr.1.trans (Nat.zero_add _)] at hpost
    have hpos : 0 < (hi - lo) / 2 := hr.2
    exact SPred.pure_intro ⟨hinv.1.trans (hpost.1.mono (Nat.le_refl _) (by show lo + (hi - lo) ≤ hi; omega)), hpost.2⟩
  case vc3 => -- build loop: on entry
    rename_i len s hpre
    refine SPred.pure_intro ⟨hpre.1 ▸ Frame.refl _ _ _, HeapFrom.of_half lt ?_⟩
    rw [range_length]; exact Nat.le_refl _
  case vc4 => -- pop loop: after the swap, the precondition of `siftDown` at the root
    rename_i len s0 hpre u1 s1 hb pref cur suff hsplit u i s hinv
    have hinv : PopInv lt lo hi a (hi - lo - pref.length) s.val := hinv
    obtain ⟨e1, e2, hi1, hi2⟩ := pop_index (len := hi - lo) (range_split hsplit)
    rw [e1] at hinv
    have hsz : hi ≤ s.val.size := by rw [hinv.frame.size]; exact hpre.2
    refine SPred.pure_intro ⟨rfl, hinv.swap_sift lt hi1 hi2 hsz, ?_⟩
    show lo + (hi - lo - 1 - cur) ≤ (s.val.swapIfInBounds _ _).size
    rw [size_swap]; omega
  case vc5 => -- pop loop: the invariant after it
    rename_i len s0 hpre u1 s1 hb pref cur suff hsplit u i s2 hinv r s hpost
    have hinv : PopInv lt lo hi a (hi - lo - pref.length) s2.val := hinv
    obtain ⟨e1, e2, hi1, hi2⟩ := pop_index (len := hi - lo) (range_split hsplit)
    rw [e1] at hinv
    have hsz : hi ≤ s2.val.size := by rw [hinv.frame.size]; exact hpre.2
    refine SPred.pure_intro ?_
    simp only [List.length_append, List.length_singleton]
    rw [e2]
    exact hinv.next lt h hi1 hi2 hsz hpost.1 hpost.2
  case vc6 => -- pop loop: on entry, from the build loop's invariant `hb`
    rename_i len s0 hpre u s hb
    exact SPred.pure_intro (PopInv.init lt hb.1 hb.2)
  case vc7 => -- after the pop loop
    rename_i len s0 hpre u1 s1 hb u s hinv
    refine SPred.pure_intro (PopInv.finish lt hinv ?_)
    rw [range_length]; show hi - lo - (hi - lo - 1 - 0) ≤ 1; omega
end NucleoVerif.PS
