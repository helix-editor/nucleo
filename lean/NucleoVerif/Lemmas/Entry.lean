import NucleoVerif.Model.Matcher
import NucleoVerif.Spec.Matcher
import NucleoVerif.Props.C16
/-! What the entry points share: the needle arrives normalized (`n.map (norm cfg nrep) = n`), `fuzzy_match`,
`fuzzy_match_greedy` and `substring_match` start with the same three length guards, and everything anchored goes through
`exact_match_impl`, which on a normalized needle is equality with a window of the normalized haystack. -/
namespace NucleoVerif
open Gen Spec

theorem map_eq_self (f : Nat → Nat) : ∀ (l : List Nat), (∀ c ∈ l, f c = c) → l.map f = l :=
  fun l hl => (List.map_congr_left hl).trans (List.map_id l)

theorem eq_self_of_map (f : Nat → Nat) (l : List Nat) (h : l.map f = l) : ∀ c ∈ l, f c = c :=
  List.map_inj_left.mp (h.trans (List.map_id l).symm)

theorem map_cnorm_eq_map_norm (cfg : Cfg) (hrep : Rep) (w : List Nat) : w.map (cnorm cfg hrep) = w.map (norm cfg hrep) :=
  List.map_congr_left fun c _ => cnorm_eq_norm cfg hrep c

theorem cnormChar_eq (cfg : Cfg) (c : Nat) : cnormChar cfg c = normChar cfg c := cnorm_eq_norm cfg .unicode c

/-- `exact_match_impl` succeeds iff the window has the needle's length and, per pair of representations, the normalized
    window equals the normalized needle; an ASCII-representation haystack never matches a code-point needle (finding K1
    when that needle is ASCII text) -/
theorem exactImpl_isSome (cfg : Cfg) (ext : Ext) (hrep nrep : Rep) (h n : List Nat) (start end_ : Nat) :
    (exactImpl cfg ext hrep nrep h n start end_).isSome =
      (decide (n.length = end_ - start) &&
        match hrep, nrep with
        | .ascii, .ascii => if cfg.ignoreCase then ((h.drop start).take (end_ - start)).map (normAscii cfg) == n.map (normAscii cfg)
                            else ((h.drop start).take (end_ - start)) == n
        | .ascii, .unicode => false
        | .unicode, .ascii => ((h.drop start).take (end_ - start)).map (normChar cfg) == n.map (normAscii cfg)
        | .unicode, .unicode => ((h.drop start).take (end_ - start)).map (normChar cfg) == n.map (normChar cfg)) := by
  unfold exactImpl
  split
  · next hl => rw [decide_eq_false hl]; rfl
  · next hl =>
    rw [decide_eq_true (Decidable.not_not.mp hl), Bool.true_and]
    exact Bool.eq_iff_iff.mpr Option.isSome_ite

theorem normAscii_of_not_ignoreCase (cfg : Cfg) (hi : cfg.ignoreCase = false) (c : Nat) : normAscii cfg c = c :=
  if_neg (fun h => by rw [hi] at h; cases h.1)

/-- for a normalized needle, in every representation pair except that of K1, `exact_match_impl` is equality with the
    window of the normalized haystack -/
theorem exactImpl_window (cfg : Cfg) (ext : Ext) (hrep nrep : Rep) (h n : List Nat) (start end_ : Nat)
    (hk1 : ¬ (hrep = .ascii ∧ nrep = .unicode)) (hn : n.map (norm cfg nrep) = n) :
    (exactImpl cfg ext hrep nrep h n start end_).isSome =
      (decide (n.length = end_ - start) && (((normHay cfg hrep h).drop start).take (end_ - start) == n)) := by
  rw [exactImpl_isSome, normHay, ← List.map_drop, ← List.map_take]
  congr 1
  cases hrep <;> cases nrep
  · cases hi : cfg.ignoreCase
    · simp only [Bool.false_eq_true, if_false, map_eq_self (norm cfg .ascii) _ fun c _ => normAscii_of_not_ignoreCase cfg hi c]
    · simp only [if_true]
      exact congrArg _ hn
  · exact absurd ⟨rfl, rfl⟩ hk1
  · exact congrArg _ hn
  · exact congrArg _ hn

theorem exactImpl_some (cfg : Cfg) (ext : Ext) (hrep nrep : Rep) (h n : List Nat) (start end_ : Nat)
    (hk1 : ¬ (hrep = .ascii ∧ nrep = .unicode)) (hn : n.map (norm cfg nrep) = n) (r : Nat × List Nat)
    (hres : exactImpl cfg ext hrep nrep h n start end_ = some r) :
    n.length = end_ - start ∧ ((h.drop start).take (end_ - start)).map (cnorm cfg hrep) = n ∧
    r = calculateScore cfg ext hrep h n start end_ := by
  have hsome : (exactImpl cfg ext hrep nrep h n start end_).isSome = true := by rw [hres]; rfl
  rw [exactImpl_window cfg ext hrep nrep h _ _ _ hk1 hn, Bool.and_eq_true, decide_eq_true_eq, beq_iff_eq] at hsome
  refine ⟨hsome.1, ?_, ?_⟩
  · rw [map_cnorm_eq_map_norm, List.map_take, List.map_drop]
    exact hsome.2
  · unfold exactImpl at hres
    rw [if_neg (not_not_intro hsome.1)] at hres
    exact (Option.ite_some_none_eq_some.mp hres).2.symm

/-- behind its trimming and length check `prefix_match` is `exact_match_impl` (likewise `postfix_match`, `exact_match` below) -/
theorem prefixMatch_some (cfg : Cfg) (ext : Ext) (hrep nrep : Rep) (h : List Nat) (n0 : Nat) (ns : List Nat) (r : Nat × List Nat)
    (hres : prefixMatch cfg ext hrep nrep h (n0 :: ns) = some r) :
    exactImpl cfg ext hrep nrep h (n0 :: ns) (if !isWs n0 then leadingWs hrep h else 0)
      ((n0 :: ns).length + (if !isWs n0 then leadingWs hrep h else 0)) = some r := by
  unfold prefixMatch at hres
  simp only at hres
  generalize (if !isWs n0 then leadingWs hrep h else 0) = l at hres ⊢
  split at hres
  · cases hres
  · exact hres

theorem postfixMatch_some (cfg : Cfg) (ext : Ext) (hrep nrep : Rep) (h : List Nat) (n0 : Nat) (ns : List Nat) (r : Nat × List Nat)
    (hres : postfixMatch cfg ext hrep nrep h (n0 :: ns) = some r) :
    exactImpl cfg ext hrep nrep h (n0 :: ns)
      (h.length - (n0 :: ns).length - (if !isWs ((n0 :: ns).getLast?.getD n0) then trailingWs hrep h else 0))
      (h.length - (if !isWs ((n0 :: ns).getLast?.getD n0) then trailingWs hrep h else 0)) = some r := by
  unfold postfixMatch at hres
  simp only at hres
  generalize (if !isWs ((n0 :: ns).getLast?.getD n0) then trailingWs hrep h else 0) = t at hres ⊢
  split at hres
  · cases hres
  · exact hres

theorem exactMatch_some (cfg : Cfg) (ext : Ext) (hrep nrep : Rep) (h : List Nat) (n0 : Nat) (ns : List Nat) (r : Nat × List Nat)
    (hres : exactMatch cfg ext hrep nrep h (n0 :: ns) = some r) :
    exactImpl cfg ext hrep nrep h (n0 :: ns) (if !isWs n0 then leadingWs hrep h else 0)
      (h.length - (if !isWs ((n0 :: ns).getLast?.getD n0) then trailingWs hrep h else 0)) = some r := by
  unfold exactMatch at hres
  simp only at hres
  generalize (if !isWs n0 then leadingWs hrep h else 0) = l at hres ⊢
  generalize (if !isWs ((n0 :: ns).getLast?.getD n0) then trailingWs hrep h else 0) = t at hres ⊢
  split at hres
  · cases hres
  · exact hres

/-- the guards shared by `fuzzy_match`, `fuzzy_match_greedy` and `substring_match`, passed by a non-empty needle shorter
    than the haystack -/
theorem guards_of_shorter {α : Type} (h n : List Nat) (hne : n ≠ []) (hlen : n.length < h.length) (a b c d : α) :
    (if n.length > h.length then a else if n.isEmpty then b else if n.length = h.length then c else d) = d := by
  rw [if_neg (Nat.lt_asymm hlen), if_neg (fun e => hne (List.isEmpty_iff.mp e)), if_neg (Nat.ne_of_lt hlen)]

/-- the three guards decide `spec` (an entry point's claimed success condition) if the remaining branch `rest` does -/
theorem guards_isSome (cfg : Cfg) (ext : Ext) (hrep nrep : Rep) (h n : List Nat)
    (hk1 : ¬ (hrep = .ascii ∧ nrep = .unicode)) (hn : n.map (norm cfg nrep) = n) (spec : Bool) (rest : MRes)
    (hlong : h.length < n.length → spec = false) (hnil : n = [] → spec = true)
    (heq : n.length = h.length → spec = (normHay cfg hrep h == n))
    (hrest : n ≠ [] → n.length < h.length → rest.isSome = spec) :
    (if n.length > h.length then none else if n.isEmpty then some (0, []) else
      if n.length = h.length then exactImpl cfg ext hrep nrep h n 0 h.length else rest).isSome = spec := by
  by_cases hl : n.length > h.length
  · rw [if_pos hl]; exact (hlong hl).symm
  · by_cases he : n = []
    · rw [if_neg hl, if_pos (List.isEmpty_iff.mpr he)]; exact (hnil he).symm
    · by_cases hq : n.length = h.length
      · rw [if_neg hl, if_neg (fun e => he (List.isEmpty_iff.mp e)), if_pos hq,
          exactImpl_window cfg ext hrep nrep h n 0 h.length hk1 hn, Nat.sub_zero, decide_eq_true hq, Bool.true_and,
          List.drop_zero, heq hq, List.take_of_length_le (by rw [normHay, List.length_map]; exact Nat.le_refl _)]
      · rw [guards_of_shorter h n he (Nat.lt_of_le_of_ne (Nat.le_of_not_lt hl) hq)]
        exact hrest he (Nat.lt_of_le_of_ne (Nat.le_of_not_lt hl) hq)

end NucleoVerif
