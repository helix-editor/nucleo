import NucleoVerif.Lemmas.SortInsertion
open Std.Do
namespace NucleoVerif.PS
open Gen
set_option mvcgen.warning false
variable {α : Type} [Inhabited α] {a0 : Array α} (lt : α → α → Bool)

/-- What a call of the `recurse` loop on `v[lo..hi)` guarantees, `r.1` being its "cancelled" flag: only the slice is
    rearranged; it is sorted unless cancellation is reported; and a slice short enough for the sequential branch never
    reports it.  The last is needed because that branch of `recurseSplit` drops the flag of its first call. -/
def RecPost (lo hi : Nat) (a : Array α) (r : Bool × Nat) (b : Array α) : Prop :=
  Frame lo hi a b ∧ (r.1 = false → Sorted lt lo hi b) ∧ (hi - lo ≤ PS_MAX_SEQUENTIAL → r.1 = false)

/-- the slice is in range, and none of its elements is smaller than the predecessor pivot -/
def RecPre (lo hi : Nat) (pred : Option α) (a : Array α) : Prop :=
  hi ≤ a.size ∧ ∀ p, pred = some p → SegAll lo hi (fun x => lt x p = false) a

abbrev RecFn (α : Type) [Inhabited α] (a0 : Array α) := (lo hi : Nat) → Option α → (limit : Nat) → (wasBalanced wasPartitioned : Bool) → (nread : Nat) → M a0 (Bool × Nat)

/-- the contract of `rec` on slices shorter than `bound` (the fuel of `recurseLoop`) -/
def RecSpec (rec : RecFn α a0) (bound : Nat) : Prop :=
  ∀ (lo hi : Nat) (pred : Option α) (limit : Nat) (wb wp : Bool) (nread : Nat) (a : Array α),
   ⦃fun s => ⌜s.val = a ∧ hi - lo < bound ∧ RecPre lt lo hi pred a⌝⦄
   (rec lo hi pred limit wb wp nread)
   ⦃⇓ r s => ⌜RecPost lt lo hi a r s.val⌝⦄

theorem RecPre.left {lo hi mid : Nat} {pred : Option α} {a b : Array α} (hp : RecPre lt lo hi pred a)
    (pp : PartPost lt lo hi a mid b) : lo + mid - lo < hi - lo ∧ RecPre lt lo (lo + mid) pred b := by
  obtain ⟨f, hm, _, _⟩ := pp
  refine ⟨by omega, by rw [f.size]; exact Nat.le_trans (Nat.le_of_lt hm) hp.1, fun p hpp => ?_⟩
  exact (f.all _ (hp.2 p hpp)).mono (Nat.le_refl _) (Nat.le_of_lt hm)

theorem RecPre.right {lo hi mid : Nat} {pred : Option α} {a b : Array α} (hp : RecPre lt lo hi pred a)
    (pp : PartPost lt lo hi a mid b) :
    hi - (lo + mid + 1) < hi - lo ∧ RecPre lt (lo + mid + 1) hi (some (at' b (lo + mid))) b := by
  obtain ⟨f, hm, _, hr⟩ := pp
  refine ⟨by omega, by rw [f.size]; exact hp.1, fun p hpp => ?_⟩
  cases hpp
  intro i h1 h2
  exact hr i h1 h2

theorem RecPre.after_equal {lo hi mid : Nat} {pred : Option α} {a b : Array α} {pv : α} (hp : RecPre lt lo hi pred a)
    (ep : EqPost lt lo hi a pv mid b) : hi - (lo + mid) < hi - lo ∧ RecPre lt (lo + mid) hi pred b := by
  obtain ⟨f, hm1, hm2, _, _⟩ := ep
  refine ⟨by omega, by rw [f.size]; exact hp.1, fun p hpp => ?_⟩
  exact (f.all _ (hp.2 p hpp)).mono (Nat.le_add_right _ _) (Nat.le_refl _)

theorem RecPre.frame_disjoint {l h l2 h2 : Nat} {pred : Option α} {a b : Array α} (hp : RecPre lt l h pred a)
    (f : Frame l2 h2 a b) (hd : h ≤ l2 ∨ h2 ≤ l) : RecPre lt l h pred b :=
  ⟨by rw [f.size]; exact hp.1, fun p hpp => f.segAll_disjoint hd _ (hp.2 p hpp)⟩

theorem RecPre.frame_same {lo hi : Nat} {pred : Option α} {a b : Array α} (hp : RecPre lt lo hi pred a)
    (f : Frame lo hi a b) : RecPre lt lo hi pred b :=
  ⟨by rw [f.size]; exact hp.1, fun p hpp => f.all _ (hp.2 p hpp)⟩

theorem RecPost.frame {lo hi : Nat} {a b c : Array α} {r : Bool × Nat} (f : Frame lo hi a b) (p : RecPost lt lo hi b r c) :
    RecPost lt lo hi a r c := ⟨f.trans p.1, p.2.1, p.2.2⟩

theorem sorted_of_parts (h : SWO lt) (lo hi mid : Nat) (b : Array α) (pv : α) (hpv : at' b (lo + mid) = pv)
    (hL : SegAll lo (lo + mid) (fun x => lt x pv = true) b) (hR : SegAll (lo + mid + 1) hi (fun x => lt x pv = false) b)
    (sL : Sorted lt lo (lo + mid) b) (sR : Sorted lt (lo + mid + 1) hi b) : Sorted lt lo hi b := by
  intro i j h1 h2 h3
  by_cases hj : j < lo + mid
  · exact sL i j h1 h2 hj
  · by_cases hi' : lo + mid < i
    · exact sR i j hi' h2 h3
    · by_cases e1 : i = lo + mid
      · rw [e1, hpv]; exact hR j (e1 ▸ h2) h3
      · have hli : lt (at' b i) pv = true := hL i h1 (by omega)
        by_cases e2 : j = lo + mid
        · rw [e2, hpv]; exact h.asym _ _ hli
        · exact h.asym _ _ (h.lt_of_lt_of_le _ _ _ hli (hR j (by omega) h3))

theorem combine_LR (h : SWO lt) {lo hi mid : Nat} {a s1 s2 s3 : Array α} {rL rR : Bool × Nat}
    (pp : PartPost lt lo hi a mid s1) (pL : RecPost lt lo (lo + mid) s1 rL s2) (pR : RecPost lt (lo + mid + 1) hi s2 rR s3) :
    Frame lo hi a s3 ∧ (rL.1 = false → rR.1 = false → Sorted lt lo hi s3) := by
  obtain ⟨f, hm, hl, hr⟩ := pp
  obtain ⟨fL, sL, _⟩ := pL
  obtain ⟨fR, sR, _⟩ := pR
  have dL : lo + mid ≤ lo + mid + 1 ∨ hi ≤ lo := Or.inl (Nat.le_succ _)
  have dR : hi ≤ lo ∨ lo + mid ≤ lo + mid + 1 := Or.inr (Nat.le_succ _)
  refine ⟨f.trans ((fL.mono (Nat.le_refl _) (Nat.le_of_lt hm)).trans (fR.mono (by omega) (Nat.le_refl _))), fun e1 e2 => ?_⟩
  have hpv : at' s3 (lo + mid) = at' s1 (lo + mid) := by
    rw [fR.out _ (Or.inl (Nat.lt_succ_self _)), fL.out _ (Or.inr (Nat.le_refl _))]
  refine sorted_of_parts lt h lo hi mid s3 _ hpv ?_ ?_ ((sL e1).frame_disjoint fR dL) (sR e2)
  · exact fR.segAll_disjoint dL _ (fL.all _ hl)
  · exact fR.all _ (fL.segAll_disjoint dR _ hr)

theorem combine_RL (h : SWO lt) {lo hi mid : Nat} {a s1 s2 s3 : Array α} {rL rR : Bool × Nat}
    (pp : PartPost lt lo hi a mid s1) (pR : RecPost lt (lo + mid + 1) hi s1 rR s2) (pL : RecPost lt lo (lo + mid) s2 rL s3) :
    Frame lo hi a s3 ∧ (rL.1 = false → rR.1 = false → Sorted lt lo hi s3) := by
  obtain ⟨f, hm, hl, hr⟩ := pp
  obtain ⟨fL, sL, _⟩ := pL
  obtain ⟨fR, sR, _⟩ := pR
  have dL : lo + mid ≤ lo + mid + 1 ∨ hi ≤ lo := Or.inl (Nat.le_succ _)
  have dR : hi ≤ lo ∨ lo + mid ≤ lo + mid + 1 := Or.inr (Nat.le_succ _)
  refine ⟨f.trans ((fR.mono (by omega) (Nat.le_refl _)).trans (fL.mono (Nat.le_refl _) (Nat.le_of_lt hm))), fun e1 e2 => ?_⟩
  have hpv : at' s3 (lo + mid) = at' s1 (lo + mid) := by
    rw [fL.out _ (Or.inr (Nat.le_refl _)), fR.out _ (Or.inl (Nat.lt_succ_self _))]
  refine sorted_of_parts lt h lo hi mid s3 _ hpv ?_ ?_ (sL e1) ((sR e2).frame_disjoint fL dR)
  · exact fL.all _ (fR.segAll_disjoint dL _ hl)
  · exact fL.segAll_disjoint dR _ (fR.all _ hr)

/-- when both parts are short enough for the sequential branch, neither call reports cancellation -/
theorem RecPost.not_cancelled {lo hi mid : Nat} {s1 s2 s3 s4 : Array α} {rL rR : Bool × Nat}
    (pL : RecPost lt lo (lo + mid) s1 rL s2) (pR : RecPost lt (lo + mid + 1) hi s3 rR s4)
    (hmax : max mid (hi - lo - mid - 1) ≤ PS_MAX_SEQUENTIAL) : rL.1 = false ∧ rR.1 = false := by
  have hm := Nat.max_le.1 hmax
  exact ⟨pL.2.2 (by omega), pR.2.2 (by omega)⟩

theorem not_small_of_parts {lo hi mid : Nat} (hm : lo + mid < hi) (hmax : ¬ max mid (hi - lo - mid - 1) ≤ PS_MAX_SEQUENTIAL) :
    ¬ hi - lo ≤ PS_MAX_SEQUENTIAL := by
  rw [Nat.max_le] at hmax
  omega

/-- `partition_equal` against the predecessor pivot `p` (every element is `≥ p`, the chosen pivot is `≤ p`), then the
    loop continues on the elements greater than the pivot -/
theorem combine_equal (h : SWO lt) {lo hi mid : Nat} {a s1 s2 : Array α} {p pv : α} {r : Bool × Nat}
    (hp : SegAll lo hi (fun x => lt x p = false) a) (hle : lt p pv = false)
    (ep : EqPost lt lo hi a pv mid s1) (pR : RecPost lt (lo + mid) hi s1 r s2) : RecPost lt lo hi a r s2 := by
  obtain ⟨f, hm1, hm2, hl, hr⟩ := ep
  obtain ⟨fR, sR, cR⟩ := pR
  have fR' := fR.mono (Nat.le_add_right lo mid) (Nat.le_refl _)
  refine ⟨f.trans fR', fun e => ?_, fun hle' => cR (by omega)⟩
  have hp2 : SegAll lo hi (fun x => lt x p = false) s2 := fR'.all _ (f.all _ hp)
  have hl2 : SegAll lo (lo + mid) (fun x => lt pv x = false) s2 := fR.segAll_disjoint (Or.inl (Nat.le_refl _)) _ hl
  have hr2 : SegAll (lo + mid) hi (fun x => lt pv x = true) s2 := fR.all _ hr
  intro i j h1 h2 h3
  by_cases hj : j < lo + mid
  · -- both equal to the pivot:  i ≤ pv ≤ p ≤ j
    exact h.le_trans _ _ _ (hl2 i h1 (Nat.lt_trans h2 hj)) (h.le_trans _ _ _ hle (hp2 j (by omega) h3))
  · by_cases hi' : lo + mid ≤ i
    · exact sR e i j hi' h2 h3
    · exact h.asym _ _ (h.lt_of_le_of_lt _ _ _ (hl2 i h1 (by omega)) (hr2 j (by omega) h3))

/-- `a` is the array on entry of the `recurse` iteration; `breakPatterns`, `choosePivot` and `partialInsertionSort` have
    rearranged it since.  The precondition carries that frame, so that the postcondition speaks of `a` (`RecPost.frame`);
    likewise in `recursePivot_spec`. -/
theorem recurseSplit_spec (h : SWO lt) (hP : PartitionSpec lt) (hE : PartitionEqualSpec lt)
    (cancelAt : Nat → Bool) (rec : RecFn α a0) (lo hi : Nat) (hrec : RecSpec lt rec (hi - lo))
    (pred : Option α) (limit : Nat) (wb wp : Bool) (nread pivot : Nat) (a : Array α) :
   ⦃fun s => ⌜Frame lo hi a s.val ∧ lo + pivot < hi ∧ RecPre lt lo hi pred s.val⌝⦄
   (recurseSplit lt cancelAt rec lo hi pred limit wb wp nread pivot)
   ⦃⇓ r s => ⌜RecPost lt lo hi a r s.val⌝⦄ := by
  unfold RecSpec at hrec
  have hP' := hP a0
  have hE' := hE a0
  mvcgen -trivial -leave [recurseSplit, rd_spec, hrec, hP', hE']
  -- The cases are numbered in the order of `mvcgen`'s output and grouped here by what they ask.  Each case from `vc4` on
  -- occurs twice, for `pred = some p` and for `pred = none`.
  case vc1 | vc4 | vc18 => -- the precondition of `partitionEqual`, of `partition`
    rename_i hpre _
    exact SPred.pure_intro ⟨rfl, hpre.2.2.1, hpre.2.1⟩
  case vc2 => -- after `partitionEqual`: the precondition of the call on the rest
    rename_i x s0 hpre hne r s ep
    subst x
    exact SPred.pure_intro ⟨rfl, hpre.2.2.after_equal lt ep⟩
  case vc3 => -- after that call
    rename_i p x s0 hpre hne r1 s1 ep r s
    exact SPred.pure_elim' fun pR => SPred.pure_intro
      ((combine_equal lt h (hpre.2.2.2 p rfl) ((Bool.not_eq_true' _).mp hne) ep pR).frame lt hpre.1)
  case vc15 | vc16 | vc17 => -- without a predecessor pivot there is no `partitionEqual` branch
    exact absurd ‹false = true› Bool.false_ne_true
  case vc5 | vc19 | vc12 | vc26 => -- after `partition`: the precondition of the left call when it comes first
    rename_i x s0 hpre hne r _ _ _ s pp hmax hlt
    subst x
    exact SPred.pure_intro ⟨rfl, hpre.2.2.left lt pp⟩
  case vc8 | vc22 => -- the precondition of the right call when it comes first
    rename_i x s0 hpre hne r _ _ _ s pp hmax hlt
    subst x
    exact SPred.pure_intro ⟨rfl, hpre.2.2.right lt pp⟩
  case vc6 | vc20 | vc13 | vc27 => -- the precondition of the right call after the left one
    rename_i x s0 hpre hne r _ _ _ s1 pp hmax hlt rL s pL
    subst x
    exact SPred.pure_intro
      ⟨rfl, (hpre.2.2.right lt pp).1, (hpre.2.2.right lt pp).2.frame_disjoint lt pL.1 (Or.inr (Nat.le_succ _))⟩
  case vc9 | vc23 => -- the precondition of the left call after the right one
    rename_i x s0 hpre hne r _ _ _ s1 pp hmax hlt rR s pR
    subst x
    exact SPred.pure_intro
      ⟨rfl, (hpre.2.2.left lt pp).1, (hpre.2.2.left lt pp).2.frame_disjoint lt pR.1 (Or.inl (Nat.le_succ _))⟩
  case vc7 | vc21 => -- sequential, left then right: the result
    rename_i x s0 hpre hne r _ _ _ s1 pp hmax hlt rL s2 pL rR s
    refine SPred.pure_elim' fun pR => SPred.pure_intro ?_
    have hc := combine_LR lt h pp pL pR
    have hn := pL.not_cancelled lt pR hmax
    exact RecPost.frame lt hpre.1 ⟨hc.1, fun _ => hc.2 hn.1 hn.2, fun _ => hn.2⟩
  case vc10 | vc24 => -- sequential, right then left: the result
    rename_i x s0 hpre hne r _ _ _ s1 pp hmax hlt rR s2 pR rL s
    refine SPred.pure_elim' fun pL => SPred.pure_intro ?_
    have hc := combine_RL lt h pp pR pL
    have hn := pL.not_cancelled lt pR hmax
    exact RecPost.frame lt hpre.1 ⟨hc.1, fun _ => hc.2 hn.1 hn.2, fun _ => hn.1⟩
  case vc11 | vc25 => -- the cancel flag is found raised: `(true, _)` is returned
    rename_i x s0 hpre hne r _ _ _ s1 pp hmax hc
    exact SPred.pure_intro (RecPost.frame lt hpre.1
      ⟨pp.1, fun e => Bool.noConfusion e, fun hle => absurd hle (not_small_of_parts pp.2.1 hmax)⟩)
  case vc14 | vc28 => -- `join`: the result
    rename_i x s0 hpre hne r _ _ _ s1 pp hmax hc rL s2 pL rR s pR
    have hcb := combine_LR lt h pp pL pR
    refine SPred.pure_intro
      (RecPost.frame lt hpre.1 ⟨hcb.1, fun e => ?_, fun hle => absurd hle (not_small_of_parts pp.2.1 hmax)⟩)
    have e' := Bool.or_eq_false_iff.1 e
    exact hcb.2 e'.1 e'.2

theorem recursePivot_spec (h : SWO lt) (hP : PartitionSpec lt) (hE : PartitionEqualSpec lt) (hC : ChoosePivotSpec lt)
    (hI : PartialInsertionSpec lt)
    (cancelAt : Nat → Bool) (rec : RecFn α a0) (lo hi : Nat) (hrec : RecSpec lt rec (hi - lo))
    (pred : Option α) (limit : Nat) (wb wp : Bool) (nread : Nat) (a : Array α) :
   ⦃fun s => ⌜Frame lo hi a s.val ∧ lo < hi ∧ RecPre lt lo hi pred s.val⌝⦄
   (recursePivot lt cancelAt rec lo hi pred limit wb wp nread)
   ⦃⇓ r s => ⌜RecPost lt lo hi a r s.val⌝⦄ := by
  have hS := recurseSplit_spec lt h hP hE cancelAt rec lo hi hrec
  have hC' := hC a0
  have hI' := hI a0
  mvcgen -trivial -leave [recursePivot, hS, hC', hI']
  case vc1 => -- the precondition of `choosePivot`
    rename_i s hpre
    exact SPred.pure_intro ⟨rfl, hpre.2.2.1, hpre.2.1⟩
  case vc2 => -- of `partialInsertionSort`
    rename_i s0 hpre r _ hc s hcp
    exact SPred.pure_intro ⟨rfl, hcp.1.size ▸ hpre.2.2.1⟩
  case vc3 => -- which has sorted the slice
    rename_i s0 hpre r _ hc s1 hcp r2 hr2 s hpi
    exact SPred.pure_intro ⟨hpre.1.trans (hcp.1.trans hpi.1), fun _ => hpi.2 hr2, fun _ => rfl⟩
  case vc4 => -- or has not: the precondition of `recurseSplit`
    rename_i s0 hpre r _ hc s1 hcp r2 hr2 s hpi
    have f := hcp.1.trans hpi.1
    exact SPred.pure_intro ⟨hpre.1.trans f, Nat.add_lt_of_lt_sub' hcp.2, hpre.2.2.frame_same lt f⟩
  case vc5 => -- the same when no insertion sort was tried
    rename_i s0 hpre r _ hc s hcp
    exact SPred.pure_intro ⟨hpre.1.trans hcp.1, Nat.add_lt_of_lt_sub' hcp.2, hpre.2.2.frame_same lt hcp.1⟩

theorem RecSpec.mono {rec : RecFn α a0} {b b' : Nat} (hr : RecSpec lt rec b) (hb : b' ≤ b) : RecSpec lt rec b' := by
  intro lo hi pred limit wb wp nread a
  refine (triple_iff _ _ _).2 fun s hp => ?_
  exact (triple_iff _ _ _).1 (hr lo hi pred limit wb wp nread a) s ⟨hp.1, Nat.lt_of_lt_of_le hp.2.1 hb, hp.2.2⟩

theorem recurseLoop_spec (h : SWO lt) (hP : PartitionSpec lt) (hE : PartitionEqualSpec lt) (hC : ChoosePivotSpec lt)
    (hI : PartialInsertionSpec lt) (hB : BreakPatternsSpec (α := α)) (hH : HeapsortSpec lt)
    (cancelAt : Nat → Bool) (fuel : Nat) : RecSpec (a0 := a0) lt (recurseLoop lt cancelAt fuel) fuel := by
  induction fuel with
  | zero =>
    intro lo hi pred limit wb wp nread a
    refine (triple_iff _ _ _).2 fun s hp => ?_
    exact absurd hp.2.1 (Nat.not_lt_zero _)
  | succ fuel ih =>
    intro lo hi pred limit wb wp nread a
    by_cases hle : hi - lo ≤ fuel
    · -- the slice is short enough for the calls with one unit of fuel less
      have hS := recursePivot_spec lt h hP hE hC hI cancelAt (recurseLoop lt cancelAt fuel) lo hi (ih.mono lt hle)
      have hB' := hB a0
      have hH' := hH a0
      have hIS := insertionSort_spec (a0 := a0) lt h
      mvcgen -trivial -leave [recurseLoop, hS, hB', hH', hIS]
      case vc1 | vc3 | vc5 => -- the precondition of `insertionSort`, `heapsort`, `breakPatterns`
        rename_i s hpre
        exact SPred.pure_intro ⟨rfl, hpre.1 ▸ hpre.2.2.1⟩
      case vc2 | vc4 => -- after `insertionSort`, `heapsort`
        rename_i s0 hpre r s hpost
        exact SPred.pure_intro ⟨hpre.1 ▸ hpost.1, fun _ => hpost.2, fun _ => rfl⟩
      case vc6 => -- the precondition of `recursePivot`, after `breakPatterns`
        rename_i hlen _ _ s0 hpre r s hpost
        obtain ⟨rfl, hf, hp⟩ := hpre
        exact SPred.pure_intro ⟨hpost, Nat.lt_of_sub_pos (Nat.zero_lt_of_lt (Nat.not_le.1 hlen)), hp.frame_same lt hpost⟩
      case vc7 => -- and without
        rename_i hlen _ _ s hpre
        obtain ⟨rfl, hf, hp⟩ := hpre
        exact SPred.pure_intro ⟨Frame.refl _ _ _, Nat.lt_of_sub_pos (Nat.zero_lt_of_lt (Nat.not_le.1 hlen)), hp⟩
    · refine (triple_iff _ _ _).2 fun s hp => ?_
      exact absurd (Nat.le_of_lt_succ hp.2.1) hle
end NucleoVerif.PS
