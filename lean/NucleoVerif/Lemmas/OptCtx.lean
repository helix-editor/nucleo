import NucleoVerif.Lemmas.OptRows
/-! The setting of one call (`Ctx`), what the recorded back-pointer cells mean (`RowFacts`), and the facts about the
recurrence's rows that every later proof assumes (`Good`, from `good_of_greedy`). -/
namespace NucleoVerif.OptImpl
open NucleoVerif NucleoVerif.Gen NucleoVerif.Gen.Opt NucleoVerif.DP

/-- one call of `fuzzy_match_optimal`.  A row has two offsets because `setup` scans row 0 from column 0 whatever
    `row_offs[0]` is (the code only `debug_assert`s that it is 0, and the theorems hold for every window): `ro r` is where
    `score_row` starts scanning row `r`, `so r = row_offs[r]` where its first cell is; they differ in row 0 only. -/
structure Ctx where
  cols : List Col
  n : List Nat
  offs : List Nat
  pb : Nat

namespace Ctx
def width (c : Ctx) : Nat := c.cols.length + 1 - c.n.length
def so (c : Ctx) (r : Nat) : Nat := c.offs.getD r 0
def ro (c : Ctx) (r : Nat) : Nat := if r = 0 then 0 else c.offs.getD r 0
def row (c : Ctx) (r : Nat) : List (Option Cell) := rowN c.cols c.n c.pb r
/-- the records of row `r`, from where it is scanned: record `t` has `m` at column `ro r + t` and `col`, `out` (a cell of
    row `r + 1`) at column `ro r + t + 1` -/
def steps (c : Ctx) (r : Nat) : List NStep :=
  nsteps (c.n.getD (r + 1) 0) ((c.row r).drop (c.ro r)) (c.cols.drop (c.ro r + 1)) none none
/-- number of back-pointer cells of row `r` -/
def L (c : Ctx) (r : Nat) : Nat := c.width - (c.ro r - r)
/-- where `populate_matrix` writes row `r`'s back-pointer cells -/
def seg (c : Ctx) : Nat → Nat
  | 0 => 0
  | r + 1 => if r = 0 then c.width else c.seg r + (c.width + r - c.so r)
end Ctx

theorem Ctx.offs_getD (c : Ctx) (r : Nat) : c.offs.getD r 0 = c.so r := rfl
theorem Ctx.ro_zero (c : Ctx) : c.ro 0 = 0 := rfl
theorem Ctx.ro_succ (c : Ctx) (r : Nat) : c.ro (r + 1) = c.so (r + 1) := if_neg (Nat.succ_ne_zero r)
theorem Ctx.ro_of_pos (c : Ctx) {r : Nat} (h : 1 ≤ r) : c.ro r = c.so r := if_neg (Nat.ne_of_gt h)
theorem Ctx.ro_le_so (c : Ctx) (r : Nat) : c.ro r ≤ c.so r := by
  unfold Ctx.ro
  split
  · exact Nat.zero_le _
  · exact Nat.le_refl _
theorem Ctx.L_zero (c : Ctx) : c.L 0 = c.width := rfl
theorem Ctx.L_of_pos (c : Ctx) {r : Nat} (h : 1 ≤ r) : c.L r = c.width - (c.so r - r) := by unfold Ctx.L; rw [c.ro_of_pos h]
theorem Ctx.L_eq_of_le (c : Ctx) {r : Nat} (h : r ≤ c.ro r) : c.L r = c.width + r - c.ro r := by
  obtain ⟨x, hx⟩ := Nat.exists_eq_add_of_le h
  unfold Ctx.L
  rw [hx, Nat.add_sub_cancel_left, Nat.add_comm r x, Nat.add_sub_add_right]
theorem Ctx.seg_zero (c : Ctx) : c.seg 0 = 0 := rfl
theorem Ctx.seg_one (c : Ctx) : c.seg 1 = c.width := rfl
theorem Ctx.seg_add_two (c : Ctx) (r : Nat) : c.seg (r + 2) = c.seg (r + 1) + (c.width + (r + 1) - c.so (r + 1)) :=
  if_neg (Nat.succ_ne_zero r)

theorem Ctx.lt_width_add (c : Ctx) {r o : Nat} (hr : r < c.n.length) (h : o + (c.n.length - 1 - r) < c.cols.length) :
    o < c.width + r := by
  unfold Ctx.width
  omega

/-- how many records of row `r` come before the one that produces row `r + 1`'s first cell (the columns of the first loop
    of `score_row`); written out as `c.so (r + 1) - 1 - c.ro r` in `RowFacts`, `Good.hlink` and `Inv.hrow` -/
def Ctx.gap (c : Ctx) (r : Nat) : Nat := c.so (r + 1) - 1 - c.ro r

/-- what the back-pointer cells of row `r` say about the recurrence.  The P-bit (`get false`) of cell `t`: whether P(r, ·) of
    record `t` came from M or from P of the column before.  The M-bit (`get true`): whether the cell of row `r` that record
    `t` reads (`st.m`), which for `r ≥ 1` is the output of record `gap (r - 1) + t` of row `r - 1`, extends that record's
    M(r-1, ·) or P(r-1, ·). -/
def RowFacts (c : Ctx) (r : Nat) (cells : List MatrixCell) : Prop :=
  ∀ (t : Nat) (st : NStep), t < c.L r → (c.steps r)[t]? = some st →
    (ppath st.p' = if (cells.getD (c.seg r + t) default).get false then mpath st.prevM else ppath st.pin) ∧
    (∀ (stp : NStep) (cc : Cell), 1 ≤ r → (c.steps (r - 1))[c.so r - 1 - c.ro (r - 1) + t]? = some stp → stp.out = some cc →
      some cc.path = (if (cells.getD (c.seg r + t) default).get true then mpath stp.m else ppath stp.p').map (· ++ [stp.col.idx]))

/-- the facts about the recurrence's rows that do not depend on the implementation's state: room for the rest of the
    needle (`hlo`), row `r` empty before `so r` with a cell there (`hnone`, `hsome`), and row `r + 1` from its offset on
    as the outputs of row `r`'s records (`hlink`) -/
structure Good (c : Ctx) : Prop where
  hN : 2 ≤ c.n.length
  hlen : c.offs.length = c.n.length
  hb : ∀ x ∈ c.cols, x.bonus < 256
  hlo : ∀ r, r < c.n.length → r ≤ c.so r ∧ c.so r + (c.n.length - 1 - r) < c.cols.length
  hinc : ∀ r, r + 1 < c.n.length → c.so r < c.so (r + 1)
  hnone : ∀ r, r < c.n.length → (c.row r).take (c.so r) = List.replicate (c.so r) none
  hsome : ∀ r, r < c.n.length → ∃ cc, (c.row r)[c.so r]? = some (some cc)
  hlink : ∀ r, r + 1 < c.n.length → (c.row (r + 1)).drop (c.so (r + 1)) = ((c.steps r).drop (c.so (r + 1) - 1 - c.ro r)).map NStep.out

theorem Good.needle {c : Ctx} (g : Good c) : ∃ n0 n1 ns, c.n = n0 :: n1 :: ns :=
  match c.n, g.hN with
  | n0 :: n1 :: ns, _ => ⟨n0, n1, ns, rfl⟩

-- consequences of `hlo` without truncated subtraction
theorem Good.width_add {c : Ctx} (g : Good c) : c.width + c.n.length = c.cols.length + 1 :=
  Nat.sub_add_cancel (Nat.le_succ_of_le (Nat.le_of_pred_lt (Nat.lt_of_le_of_lt (Nat.le_add_left ..) (g.hlo 0 (Nat.lt_of_succ_lt g.hN)).2)))

theorem Good.so_lt {c : Ctx} (g : Good c) {r : Nat} (hr : r < c.n.length) : c.so r < c.width + r :=
  c.lt_width_add hr (g.hlo r hr).2

theorem Good.so_lt_cols {c : Ctx} (g : Good c) {r : Nat} (hr : r < c.n.length) : c.so r < c.cols.length :=
  Nat.lt_of_le_of_lt (Nat.le_add_right _ _) (g.hlo r hr).2

theorem Good.le_so {c : Ctx} (g : Good c) {r : Nat} (hr : r < c.n.length) : r ≤ c.so r := (g.hlo r hr).1

theorem Good.ro_gap {c : Ctx} (g : Good c) {r : Nat} (hr : r + 1 < c.n.length) : c.ro r + c.gap r + 1 = c.so (r + 1) := by
  have := Nat.lt_of_le_of_lt (c.ro_le_so r) (g.hinc r hr)
  unfold Ctx.gap
  omega

/-- the column the traceback goes to when it leaves row `r + 1` at column `col` (both relative to the rows' offsets) -/
theorem Good.trace_up {c : Ctx} (g : Good c) {r : Nat} (hr : r + 1 < c.n.length) (col : Nat) :
    c.so r + (col + (c.so (r + 1) - c.so r) - 1) + 1 = c.so (r + 1) + col := by
  have := g.hinc r hr
  omega

theorem Good.le_ro {c : Ctx} (g : Good c) {r : Nat} (hr : r < c.n.length) : r ≤ c.ro r := by
  cases r with
  | zero => exact Nat.le_refl _
  | succ r => exact c.ro_succ r ▸ g.le_so hr

theorem good_of_greedy (c : Ctx) (hN : 2 ≤ c.n.length) (hb : ∀ x ∈ c.cols, x.bonus < 256) (hg : GreedyFrom c.cols 0 c.n c.offs) :
    Good c := by
  obtain ⟨hlen, h0, hs, hbd⟩ := greedy_index c.cols c.n c.offs 0 hg
  have hinc : ∀ r, r + 1 < c.n.length → c.so r < c.so (r + 1) := fun r hr => (hs r hr).1
  have hlo1 : ∀ r, r < c.n.length → r ≤ c.so r := by
    intro r
    induction r with
    | zero => intro _; exact Nat.zero_le _
    | succ r ih => intro hr; exact Nat.succ_le_of_lt (Nat.lt_of_le_of_lt (ih (Nat.lt_of_succ_lt hr)) (hinc r hr))
  have hlt : ∀ r, r < c.n.length → c.so r + (c.n.length - 1 - r) < c.cols.length := by
    intro r hr
    have : c.so r + c.n.length ≤ c.cols.length + r := hbd r hr
    omega
  -- a row with its first cell at `so r` yields the next row with its first cell at `so (r + 1)`
  have hstep : ∀ r, r + 1 < c.n.length → (c.row r).take (c.so r) = List.replicate (c.so r) none →
      (∃ cc, (c.row r)[c.so r]? = some (some cc)) →
      (c.row (r + 1)).take (c.so (r + 1)) = List.replicate (c.so (r + 1)) none ∧
      (∃ cc, (c.row (r + 1))[c.so (r + 1)]? = some (some cc)) ∧
      (c.row (r + 1)).drop (c.so (r + 1)) = ((c.steps r).drop (c.so (r + 1) - 1 - c.ro r)).map NStep.out := by
    intro r hr hn hsm
    obtain ⟨e, he⟩ := Nat.exists_eq_add_of_le (c.ro_le_so r)
    obtain ⟨d, hd⟩ := Nat.exists_eq_add_of_lt (Nat.lt_of_le_of_lt (c.ro_le_so r) (hinc r hr))
    have hf : FirstAt c.cols (c.so r + 1) (c.so (r + 1)) (c.n.getD (r + 1) 0) := hs r hr
    have hl := hlt (r + 1) hr
    rw [he] at hn hsm hf
    rw [hd] at hf hl ⊢
    have hrow : c.row (r + 1) = nextRow (c.n.getD (r + 1) 0) (c.row r) c.cols := rowN_succ _ _ _ _ hr
    rw [hrow, Nat.add_sub_cancel, Nat.add_sub_cancel_left]
    exact nextRow_firstAt (c.n.getD (r + 1) 0) (c.row r) c.cols (c.ro r) e d (rowN_length ..)
      (Nat.lt_of_le_of_lt (Nat.le_add_right ..) hl) hn hsm hf
  have hrows : ∀ r, r < c.n.length →
      (c.row r).take (c.so r) = List.replicate (c.so r) none ∧ ∃ cc, (c.row r)[c.so r]? = some (some cc) := by
    intro r
    induction r with
    | zero => intro hr; exact firstRow_firstAt (c.n.getD 0 0) (c.so 0) c.cols c.pb (h0 hr)
    | succ r ih =>
      intro hr
      obtain ⟨ihn, ihs⟩ := ih (Nat.lt_of_succ_lt hr)
      exact ⟨(hstep r hr ihn ihs).1, (hstep r hr ihn ihs).2.1⟩
  exact {
    hN := hN
    hlen := hlen
    hb := hb
    hlo := fun r hr => ⟨hlo1 r hr, hlt r hr⟩
    hinc := hinc
    hnone := fun r hr => (hrows r hr).1
    hsome := fun r hr => (hrows r hr).2
    hlink := fun r hr => (hstep r hr (hrows r (Nat.lt_of_succ_lt hr)).1 (hrows r (Nat.lt_of_succ_lt hr)).2).2.2 }

theorem seg_succ (c : Ctx) (g : Good c) (i : Nat) (hi : i + 1 < c.n.length) : c.seg (i + 1) = c.seg i + c.L i := by
  cases i with
  | zero => rw [c.seg_one, c.seg_zero, c.L_zero, Nat.zero_add]
  | succ i => rw [c.seg_add_two, c.L_eq_of_le (g.le_ro (Nat.lt_of_succ_lt hi)), c.ro_succ]

theorem seg_mono (c : Ctx) (g : Good c) : ∀ (i r : Nat), r ≤ i → i < c.n.length → c.seg r ≤ c.seg i := by
  intro i
  induction i with
  | zero => intro r hr _; rw [Nat.le_zero.mp hr]; exact Nat.le_refl _
  | succ i ih =>
    intro r hr hi
    rcases Nat.eq_or_lt_of_le hr with rfl | hlt
    · exact Nat.le_refl _
    · rw [seg_succ c g i hi]
      exact Nat.le_trans (ih r (Nat.le_of_lt_succ hlt) (Nat.lt_of_succ_lt hi)) (Nat.le_add_right ..)

theorem seg_le_last (c : Ctx) (g : Good c) {r : Nat} (hr : r < c.n.length) : c.seg r ≤ c.seg (c.n.length - 1) :=
  seg_mono c g _ r (Nat.le_sub_one_of_lt hr) (Nat.sub_one_lt_of_lt hr)

theorem seg_le (c : Ctx) (g : Good c) : ∀ i, i < c.n.length → c.seg i ≤ c.width * i := by
  intro i
  induction i with
  | zero => intro _; exact Nat.le_refl _
  | succ i ih =>
    intro hi
    rw [seg_succ c g i hi, Nat.mul_succ]
    have := ih (Nat.lt_of_succ_lt hi)
    have : c.L i ≤ c.width := Nat.sub_le ..
    omega

theorem seg_last_le (c : Ctx) (g : Good c) {len : Nat} (h : c.width * c.n.length ≤ len) : c.seg (c.n.length - 1) ≤ len :=
  Nat.le_trans (seg_le c g _ (Nat.sub_one_lt_of_lt g.hN)) (Nat.le_trans (Nat.mul_le_mul_left _ (Nat.sub_le ..)) h)

theorem Ctx.steps_length (c : Ctx) (r : Nat) : (c.steps r).length = c.cols.length - (c.ro r + 1) := by
  unfold Ctx.steps
  have hrow : (c.row r).length = c.cols.length := rowN_length ..
  rw [nsteps_length, List.length_drop, List.length_drop, hrow]
  exact Nat.min_eq_right (Nat.sub_le_sub_left (Nat.le_succ _) _)

theorem steps_drop_length (c : Ctx) (g : Good c) (r : Nat) (hr : r + 1 < c.n.length) :
    ((c.steps r).drop (c.gap r)).length + c.so (r + 1) = c.cols.length := by
  have hgap := g.ro_gap hr
  have := g.so_lt_cols hr
  rw [List.length_drop, c.steps_length]
  omega

end NucleoVerif.OptImpl
