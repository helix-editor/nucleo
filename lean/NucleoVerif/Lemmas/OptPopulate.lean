import NucleoVerif.Lemmas.OptCtx
import NucleoVerif.Lemmas.OptScoreRow
/-! `setup` and the loop of `populate_matrix`: the invariant `Inv`, one row (`rowStep_spec`), the whole (`populate_run`). -/
namespace NucleoVerif.OptImpl
open NucleoVerif NucleoVerif.Gen NucleoVerif.Gen.Opt NucleoVerif.DP

/-- loop invariant of `populate_matrix` at row `i ≥ 1`: the back-pointer cells of the rows before `i` are recorded, and
    (`hrow`) from `so i` on the score row holds the outputs of row `i - 1`'s records from record `gap (i - 1)` on: by
    `Good.hlink` the cells of row `i`, each with the record it came from, which the M-bit of `RowFacts` speaks of -/
structure Inv (c : Ctx) (clen i : Nat) (s : PState) : Prop where
  hcur : s.cur.length = c.width
  hoff : s.off = c.seg i
  hcells : s.cells.length = clen
  hrow : All2 StepRel (s.cur.drop (c.so i - i)) (((c.steps (i - 1)).drop (c.so i - 1 - c.ro (i - 1))).take (c.width - (c.so i - i)))
  hfacts : ∀ r, r < i → RowFacts c r s.cells

theorem All2.map_out {scs : List ScoreCell} {P : List NStep} (h : All2 StepRel scs P) : All2 CellRel scs (P.map NStep.out) := by
  induction scs generalizing P with
  | nil =>
    cases P with
    | nil => trivial
    | cons _ _ => exact h.elim
  | cons x xs ih =>
    cases P with
    | nil => exact h.elim
    | cons y ys => exact ⟨h.1.1, ih h.2⟩

theorem rowFacts_frame (c : Ctx) (g : Good c) (r i : Nat) (hr : r < i) (hi : i < c.n.length) (cells cells' : List MatrixCell)
    (hfr : ∀ k, k < c.seg i → cells'.getD k default = cells.getD k default) (h : RowFacts c r cells) : RowFacts c r cells' := by
  intro t st ht hst
  have hle : c.seg r + t < c.seg i :=
    Nat.lt_of_lt_of_le (Nat.add_lt_add_left ht _) (seg_succ c g r (Nat.lt_of_le_of_lt hr hi) ▸ seg_mono c g i (r + 1) hr hi)
  rw [hfr _ hle]
  exact h t st ht hst

/-- one row of `setup` / `populate_matrix`: if the score row holds (or, in the first row, computes) row `i` of the
    recurrence from where the row is scanned, the `score_row` call leaves the loop invariant at row `i + 1`.  `E` names the
    cells the loops see.  For `i ≥ 1` `hprev` gives `hrel` (`All2.map_out`, `Good.hlink`); row 0 has `hrel` only. -/
theorem rowStep_spec (c : Ctx) (g : Good c) (first : Bool) (i : Nat) (s : PState) (nc pb : Nat) (E : List ScoreCell)
    (hN : i + 2 ≤ c.n.length) (hcur : s.cur.length = c.width) (hoff : s.off = c.seg i) (hclen : c.seg (i + 1) ≤ s.cells.length)
    (hE : E = eff first nc (c.cols.drop (c.ro i)) pb (s.cur.drop (c.ro i - i)))
    (hrel : All2 CellRel E (((c.row i).drop (c.ro i)).take (c.L i)))
    (hprev : 1 ≤ i → All2 StepRel E (((c.steps (i - 1)).drop (c.so i - 1 - c.ro (i - 1))).take (c.L i)))
    (hfacts : ∀ r, r < i → RowFacts c r s.cells) :
    Inv c s.cells.length (i + 1) (rowStep first c.cols c.width s (c.ro i) (c.so (i + 1)) i nc (c.n.getD (i + 1) 0) pb) := by
  have hiN : i < c.n.length := Nat.lt_of_succ_lt hN
  have hs1 := seg_succ c g i hN
  rw [hs1] at hclen
  -- `ro i = i + a`, `so i = ro i + e`, `so (i + 1) = ro i + d + 1`: the shape `scoreRow_spec` is stated in
  have hinc := g.hinc i hN
  have hnro := g.so_lt hN
  have hwa := g.width_add
  obtain ⟨a, ha⟩ := Nat.exists_eq_add_of_le (g.le_ro hiN)
  obtain ⟨e, he⟩ := Nat.exists_eq_add_of_le (c.ro_le_so i)
  obtain ⟨d, hd⟩ : ∃ d, c.so (i + 1) = i + a + d + 1 := by
    rw [← ha]
    exact Nat.exists_eq_add_of_lt (Nat.lt_of_le_of_lt (c.ro_le_so i) hinc)
  obtain ⟨cc, hcc⟩ := g.hsome i hiN
  obtain ⟨hed, hwd, hwc⟩ : e ≤ d ∧ a + d < c.width ∧ c.width + i < c.cols.length := by omega
  have hLa : c.L i + a = c.width := by
    unfold Ctx.L
    rw [ha, Nat.add_sub_cancel_left]
    exact Nat.sub_add_cancel (Nat.le_of_lt (Nat.lt_of_le_of_lt (Nat.le_add_right a d) hwd))
  have hoffle : s.off ≤ s.cells.length := hoff ▸ Nat.le_trans (Nat.le_add_right ..) hclen
  have hdl : (s.cells.drop s.off).length + s.off = s.cells.length := by rw [List.length_drop]; exact Nat.sub_add_cancel hoffle
  have hcells : s.cur.length ≤ a + (s.cells.drop s.off).length := by
    rw [hcur, ← hLa, Nat.add_comm, List.length_drop, hoff]
    exact Nat.add_le_add_left (Nat.le_sub_of_add_le (Nat.add_comm .. ▸ hclen)) a
  have ea : c.ro i - i = a := by rw [ha]; exact Nat.add_sub_cancel_left ..
  have hElen : E.length = c.L i := by rw [hE, eff_length, List.length_drop, hcur]; rfl
  obtain ⟨sp1, sp2⟩ := scoreRow_spec first c.cols s.cur (s.cells.drop s.off) ((c.row i).drop (c.ro i)) i a d nc
    (c.n.getD (i + 1) 0) pb (by rw [hcur]; exact hwd) (by rw [hcur]; exact hwc) hcells
    ⟨e, cc, hed, by rw [List.getElem?_drop, ← he]; exact hcc⟩ g.hb (by rw [← ha, ← ea, hcur, ← hE]; exact hrel)
  rw [← hd, ← ha, hcur] at sp1
  rw [← hd, ← ha, ← ea, ← hE] at sp2
  have htk : (s.cells.take s.off).length = c.seg i := by rw [List.length_take_of_le hoffle, hoff]
  refine ⟨(scoreRow_length ..).1.trans hcur, ?_, ?_, ?_, ?_⟩
  · show s.off + (c.width + i - c.ro i) = c.seg (i + 1)
    rw [hoff, hs1, c.L_eq_of_le (g.le_ro hiN)]
  · show (s.cells.take s.off ++ _).length = _
    rw [List.length_append, List.length_take_of_le hoffle, (scoreRow_length ..).2, Nat.add_comm, hdl]
  · have e1 : c.so (i + 1) - (i + 1) = a + d := by rw [hd, Nat.add_sub_add_right, Nat.add_assoc, Nat.add_sub_cancel_left]
    have e2 : c.so (i + 1) - 1 - c.ro i = d := by rw [hd, ha, Nat.add_sub_cancel, Nat.add_sub_cancel_left]
    show All2 StepRel (List.drop (c.so (i + 1) - (i + 1)) _)
      (((c.steps i).drop (c.so (i + 1) - 1 - c.ro i)).take (c.width - (c.so (i + 1) - (i + 1))))
    rw [e1, e2]
    exact sp1
  · intro r hr
    rcases Nat.eq_or_lt_of_le (Nat.le_of_lt_succ hr) with rfl | hlt
    · -- the facts recorded for this row
      intro t st ht hst
      have hEt : t < E.length := by rw [hElen]; exact ht
      obtain ⟨f, hf, fr⟩ := sp2 t E[t] st (List.getElem?_eq_getElem hEt) hst
      have hg : (rowStep first c.cols c.width s (c.ro r) (c.so (r + 1)) r nc (c.n.getD (r + 1) 0) pb).cells.getD
          (c.seg r + t) default = f := by
        show (s.cells.take s.off ++ _).getD _ _ = f
        rw [List.getD_eq_getElem?_getD, List.getElem?_append_right (by rw [htk]; exact Nat.le_add_right ..), htk,
          Nat.add_sub_cancel_left, hf]
        rfl
      rw [hg]
      refine ⟨fr.2, ?_⟩
      intro stp cc h1 hstp hout
      have sr : StepRel E[t] stp := (hprev h1).get t _ stp (List.getElem?_eq_getElem hEt)
        (by rw [List.getElem?_take_of_lt ht, List.getElem?_drop]; exact hstp)
      have f1 : f.get true = E[t].matched := fr.1
      rw [f1]
      exact sr.2 cc hout
    · -- the cells before this row's segment are untouched
      apply rowFacts_frame c g r i hlt hiN s.cells _ _ (hfacts r hlt)
      intro k hk
      show (s.cells.take s.off ++ _).getD _ _ = _
      rw [List.getD_eq_getElem?_getD, List.getElem?_append_left (by rw [htk]; exact hk),
        List.getElem?_take_of_lt (by rw [hoff]; exact hk), ← List.getD_eq_getElem?_getD]

/-- any `nc`: `mCell false` reads the stored cell and ignores the current needle character -/
theorem populate_step (c : Ctx) (g : Good c) (clen : Nat) (hclen : c.seg (c.n.length - 1) ≤ clen) (i : Nat) (hi1 : 1 ≤ i)
    (hi2 : i + 2 ≤ c.n.length) (nc : Nat) (s : PState) (inv : Inv c clen i s) :
    Inv c clen (i + 1) (rowStep false c.cols c.width s (c.so i) (c.so (i + 1)) i nc (c.n.getD (i + 1) 0) 0) := by
  have hiN : i < c.n.length := Nat.lt_of_succ_lt hi2
  have hro : c.ro i = c.so i := c.ro_of_pos hi1
  have hL : c.L i = c.width - (c.so i - i) := c.L_of_pos hi1
  have hlink := g.hlink (i - 1) (by rw [Nat.sub_add_cancel hi1]; exact hiN)
  rw [Nat.sub_add_cancel hi1] at hlink
  -- the score row holds the recurrence's row `i`: the outputs of row `i - 1`'s steps
  have hrel : All2 CellRel (s.cur.drop (c.so i - i)) (((c.row i).drop (c.ro i)).take (c.L i)) := by
    rw [hro, hL, hlink, ← List.map_take]
    exact inv.hrow.map_out
  have spec := rowStep_spec c g false i s nc 0 (s.cur.drop (c.so i - i)) hi2 inv.hcur inv.hoff
    (by rw [inv.hcells]; exact Nat.le_trans (seg_le_last c g hi2) hclen)
    (by rw [hro]; rfl) hrel (fun _ => hL ▸ inv.hrow) inv.hfacts
  rw [hro, inv.hcells] at spec
  exact spec

theorem drop_eq_getD_cons (l : List Nat) (i : Nat) (h : i < l.length) : l.drop i = l.getD i 0 :: l.drop (i + 1) := by
  rw [List.getD_eq_getElem?_getD, List.getElem?_eq_getElem h]
  exact List.drop_eq_getElem_cons h

theorem populateGo_drop (cols : List Col) (width : Nat) (n offs : List Nat) (hl : offs.length = n.length) (i : Nat)
    (hi : i + 2 ≤ n.length) (s : PState) :
    populateGo cols width i (n.drop i) (offs.drop i) s =
      populateGo cols width (i + 1) (n.drop (i + 1)) (offs.drop (i + 1))
        (rowStep false cols width s (offs.getD i 0) (offs.getD (i + 1) 0) i (n.getD i 0) (n.getD (i + 1) 0) 0) := by
  have h0 : i < n.length := Nat.lt_of_succ_lt hi
  rw [drop_eq_getD_cons n i h0, drop_eq_getD_cons offs i (hl ▸ h0), drop_eq_getD_cons n (i + 1) hi,
    drop_eq_getD_cons offs (i + 1) (hl ▸ hi)]
  rfl

theorem populateGo_last (cols : List Col) (width : Nat) (n offs : List Nat) (i : Nat) (hi : n.length ≤ i + 1) (s : PState) :
    populateGo cols width i (n.drop i) (offs.drop i) s = s := by
  have hlen : (n.drop i).length ≤ 1 := by rw [List.length_drop]; exact Nat.sub_le_of_le_add (Nat.add_comm .. ▸ hi)
  match h : n.drop i, hlen with
  | [], _ => rfl
  | [_], _ => rfl

theorem populate_loop (c : Ctx) (g : Good c) (clen : Nat) (hclen : c.seg (c.n.length - 1) ≤ clen) (k i : Nat) (s : PState)
    (hk : i + k + 1 = c.n.length) (hi : 1 ≤ i) (inv : Inv c clen i s) :
    Inv c clen (c.n.length - 1) (populateGo c.cols c.width i (c.n.drop i) (c.offs.drop i) s) := by
  induction k generalizing i s with
  | zero =>
    rw [populateGo_last _ _ _ _ _ (Nat.le_of_eq hk.symm), ← hk]
    exact inv
  | succ k ih =>
    have hi2 : i + 2 ≤ c.n.length := by omega
    rw [populateGo_drop _ _ _ _ g.hlen i hi2]
    exact ih (i + 1) _ (by omega) (Nat.le_succ_of_le hi) (populate_step c g clen hclen i hi hi2 _ s inv)

theorem setup_spec (c : Ctx) (g : Good c) {n0 n1 : Nat} {ns : List Nat} (hn : c.n = n0 :: n1 :: ns)
    (cur0 : List ScoreCell) (cells0 : List MatrixCell) (h1 : cur0.length = c.width) (hclen : c.seg (c.n.length - 1) ≤ cells0.length) :
    Inv c cells0.length 1 (setupRow c.cols c.width (c.so 1) n0 n1 c.pb cur0 cells0) := by
  have hN := g.hN
  have hwa := g.width_add
  have hrel : All2 CellRel (eff true (c.n.getD 0 0) (c.cols.drop (c.ro 0)) c.pb (cur0.drop (c.ro 0 - 0)))
      (((c.row 0).drop (c.ro 0)).take (c.L 0)) := by
    have := fstCells_rel (c.n.getD 0 0) cur0 c.cols c.pb (by omega) g.hb
    rw [h1] at this
    exact this
  have spec := rowStep_spec c g true 0 ⟨cur0, cells0, 0⟩ (c.n.getD 0 0) c.pb _ hN h1 rfl
    (Nat.le_trans (seg_le_last c g hN) hclen)
    rfl hrel (fun h => absurd h (Nat.not_succ_le_zero 0)) (fun r hr => absurd hr (Nat.not_lt_zero r))
  have h0 : c.n.getD 0 0 = n0 := by rw [hn]; rfl
  have h1 : c.n.getD 1 0 = n1 := by rw [hn]; rfl
  rw [h0, h1] at spec
  -- `setup` sets the offset behind the first row's cells itself
  exact ⟨spec.hcur, rfl, spec.hcells, spec.hrow, spec.hfacts⟩

theorem populate_run (c : Ctx) (g : Good c) {n0 n1 : Nat} {ns : List Nat} (hn : c.n = n0 :: n1 :: ns)
    (cur0 : List ScoreCell) (cells0 : List MatrixCell) (hcur : cur0.length = c.width)
    (hseg : c.seg (c.n.length - 1) ≤ cells0.length) :
    Inv c cells0.length (c.n.length - 1)
      (populateGo c.cols c.width 1 (n1 :: ns) c.offs.tail (setupRow c.cols c.width (c.so 1) n0 n1 c.pb cur0 cells0)) := by
  have hN := g.hN
  have hns : n1 :: ns = c.n.drop 1 := by rw [hn]; rfl
  rw [hns, ← List.drop_one]
  exact populate_loop c g cells0.length hseg (c.n.length - 2) 1 _ (by omega) (Nat.le_refl _)
    (setup_spec c g hn cur0 cells0 hcur hseg)

end NucleoVerif.OptImpl
