import NucleoVerif.Model.OptImpl
/-! The code's cell functions `next_m_cell`, `p_score` against the recurrence's `nextM`, `pScore`, under the relation
`CellRel` between a cell of the score row and an optional cell of the recurrence. -/
namespace NucleoVerif.OptImpl
open NucleoVerif NucleoVerif.Gen NucleoVerif.Gen.Opt

/-- a cell of the score row stands for a cell of the recurrence: `UNMATCHED` for "no alignment", otherwise the same score
    and run bonus.  A real score is at least one match (16 = `SCORE_MATCH`), so it is never mistaken for `UNMATCHED`, whose
    score is 0; a run bonus below 256 passes the `as u8` of `next_m_cell` unchanged. -/
def CellRel (sc : ScoreCell) (oc : Option Cell) : Prop :=
  match oc with
  | none => sc = UNMATCHED
  | some c => sc.score = c.score ∧ sc.consecutive_bonus = c.consec ∧ 16 ≤ c.score ∧ c.consec < 256

/-- where the recurrence has no cell the code computes with the 0 of `UNMATCHED` and of the initial P-score -/
def sc0 (o : Option Cell) : Nat := (o.map (·.score)).getD 0
def ps0 (o : Option PCell) : Nat := (o.map (·.score)).getD 0
def mpath (o : Option Cell) : Option (List Nat) := o.map (·.path)
def ppath (o : Option PCell) : Option (List Nat) := o.map (·.path)

theorem CellRel.score_eq {sc : ScoreCell} {oc : Option Cell} (h : CellRel sc oc) : sc.score = sc0 oc := by
  cases oc with
  | none => simp only [CellRel] at h; subst h; rfl
  | some c => exact h.1

theorem CellRel.ne_unmatched {sc : ScoreCell} {c : Cell} (h : CellRel sc (some c)) : sc ≠ UNMATCHED := by
  intro e
  have := h.1
  rw [e] at this
  have h16 := h.2.2.1
  simp only [UNMATCHED] at this
  omega

theorem p_score_fst (m : Option Cell) (p : Option PCell) : (p_score (ps0 p) (sc0 m)).1 = ps0 (pScore m p) := by
  cases m with
  | none => cases p <;> simp [p_score, pScore, ps0, sc0, PENALTY_GAP_START, PENALTY_GAP_EXTENSION]
  | some c =>
    cases p with
    | none =>
      simp only [p_score, pScore, ps0, sc0, Option.map, Option.getD, PENALTY_GAP_START, PENALTY_GAP_EXTENSION]
      by_cases h : c.score - 3 > 0 - 1
      · simp [h]
      · simp [h]; omega
    | some q =>
      simp only [p_score, pScore, ps0, sc0, Option.map, Option.getD, PENALTY_GAP_START, PENALTY_GAP_EXTENSION]
      by_cases h : c.score - 3 > q.score - 1 <;> simp [h]

theorem p_score_snd (m : Option Cell) (p : Option PCell) (hm : ∀ c, m = some c → 16 ≤ c.score) :
    ppath (pScore m p) = (if (p_score (ps0 p) (sc0 m)).2 then mpath m else ppath p) := by
  cases m with
  | none => cases p <;> simp [p_score, pScore, ps0, sc0, ppath, PENALTY_GAP_START, PENALTY_GAP_EXTENSION]
  | some c =>
    have := hm c rfl
    cases p with
    | none =>
      simp only [p_score, pScore, ps0, sc0, ppath, mpath, Option.map, Option.getD, PENALTY_GAP_START, PENALTY_GAP_EXTENSION]
      have : decide (c.score - 3 > 0 - 1) = true := by simp; omega
      simp [this]
    | some q =>
      simp only [p_score, pScore, ps0, sc0, ppath, mpath, Option.map, Option.getD, PENALTY_GAP_START, PENALTY_GAP_EXTENSION]
      by_cases h : c.score - 3 > q.score - 1 <;> simp [h]

/-- the run bonus both sides carry on when the previous cell is extended -/
def runBonus (consec b : Nat) : Nat :=
  if b ≥ BONUS_BOUNDARY ∧ b > max consec BONUS_CONSECUTIVE then b else max consec BONUS_CONSECUTIVE

theorem next_m_cell_of_ne_unmatched (pp b : Nat) (sc : ScoreCell) (hne : sc ≠ UNMATCHED) :
    next_m_cell pp b sc =
      if sc.score + max (runBonus sc.consecutive_bonus b) b > pp + b then
        ⟨sc.score + max (runBonus sc.consecutive_bonus b) b + SCORE_MATCH, runBonus sc.consecutive_bonus b % 256, true⟩
      else ⟨pp + b + SCORE_MATCH, b % 256, false⟩ := by
  unfold next_m_cell
  rw [if_neg (by rw [decide_eq_true_eq]; exact hne)]
  simp only [runBonus, Bool.and_eq_true, decide_eq_true_eq]
  rfl

theorem nextM_some (p : Option PCell) (b : Nat) (c : Cell) (col : Nat) :
    nextM p b (some c) col =
      match p with
      | some q =>
        if c.score + max (runBonus c.consec b) b > q.score + b then
          some ⟨c.score + max (runBonus c.consec b) b + SCORE_MATCH, runBonus c.consec b, c.path ++ [col]⟩
        else some ⟨q.score + b + SCORE_MATCH, b, q.path ++ [col]⟩
      | none => some ⟨c.score + max (runBonus c.consec b) b + SCORE_MATCH, runBonus c.consec b, c.path ++ [col]⟩ := by
  cases p <;> rfl

theorem runBonus_lt (consec b : Nat) (h1 : consec < 256) (h2 : b < 256) : runBonus consec b < 256 := by
  unfold runBonus
  split
  · exact h2
  · simp only [BONUS_CONSECUTIVE]; omega

/-- `hlive`: from "no cell" on both sides the code would still build a cell, out of the zero scores -/
theorem next_m_cell_spec (sc : ScoreCell) (m : Option Cell) (p : Option PCell) (b col : Nat)
    (hrel : CellRel sc m) (hlive : m.isSome = true ∨ p.isSome = true) (hb : b < 256) :
    ∃ c, nextM p b m col = some c ∧ CellRel (next_m_cell (ps0 p) b sc) (some c) ∧
      some c.path = (if (next_m_cell (ps0 p) b sc).matched then mpath m else ppath p).map (· ++ [col]) := by
  cases m with
  | none =>
    cases hrel
    cases p with
    | none => cases hlive <;> contradiction
    | some q => exact ⟨_, rfl, ⟨rfl, Nat.mod_eq_of_lt hb, Nat.le_add_left .., hb⟩, rfl⟩
  | some c =>
    have hrb := runBonus_lt c.consec b hrel.2.2.2 hb
    rw [next_m_cell_of_ne_unmatched _ _ _ hrel.ne_unmatched, nextM_some, hrel.1, hrel.2.1]
    cases p with
    | none =>
      -- no skipped alignment: a real score beats the zero P-score
      have : c.score + max (runBonus c.consec b) b > ps0 none + b :=
        Nat.add_lt_add_of_lt_of_le (Nat.lt_of_lt_of_le (by decide) hrel.2.2.1) (Nat.le_max_right ..)
      rw [if_pos this]
      exact ⟨_, rfl, ⟨rfl, Nat.mod_eq_of_lt hrb, Nat.le_add_left .., hrb⟩, rfl⟩
    | some q =>
      have hq : ps0 (some q) = q.score := rfl
      rw [hq]
      by_cases h : c.score + max (runBonus c.consec b) b > q.score + b
      · simp only [if_pos h]
        exact ⟨_, rfl, ⟨rfl, Nat.mod_eq_of_lt hrb, Nat.le_add_left .., hrb⟩, rfl⟩
      · simp only [if_neg h]
        exact ⟨_, rfl, ⟨rfl, Nat.mod_eq_of_lt hb, Nat.le_add_left .., hb⟩, rfl⟩

/-- `List.Forall₂` as a structural recursion: `h.1` and `h.2` are the facts about the heads and the tails -/
def All2 {α β : Type} (R : α → β → Prop) : List α → List β → Prop
  | [], [] => True
  | a :: as, b :: bs => R a b ∧ All2 R as bs
  | _, _ => False

theorem All2.length_eq {α β : Type} {R : α → β → Prop} {as : List α} {bs : List β} :
    All2 R as bs → as.length = bs.length := by
  induction as generalizing bs with
  | nil =>
    cases bs with
    | nil => intro _; rfl
    | cons _ _ => exact False.elim
  | cons a as ih =>
    cases bs with
    | nil => exact False.elim
    | cons b bs => intro h; exact congrArg (· + 1) (ih h.2)

theorem All2.append {α β : Type} {R : α → β → Prop} : ∀ {as : List α} {bs : List β} {as' : List α} {bs' : List β},
    All2 R as bs → All2 R as' bs' → All2 R (as ++ as') (bs ++ bs') := by
  intro as
  induction as with
  | nil =>
    intro bs
    cases bs with
    | nil => intro _ _ _ h'; exact h'
    | cons _ _ => intro _ _ h; exact h.elim
  | cons a as ih =>
    intro bs
    cases bs with
    | nil => intro _ _ h; exact h.elim
    | cons b bs => intro _ _ h h'; exact ⟨h.1, ih h.2 h'⟩

theorem All2.get_left {α β : Type} {R : α → β → Prop} {as : List α} {bs : List β} (h : All2 R as bs) {t : Nat} {b : β}
    (hb : bs[t]? = some b) : ∃ a, as[t]? = some a ∧ R a b := by
  induction bs generalizing as t with
  | nil => nomatch hb
  | cons y bs ih =>
    cases as with
    | nil => exact h.elim
    | cons x as =>
      cases t with
      | zero => exact ⟨x, rfl, Option.some.inj hb ▸ h.1⟩
      | succ t => exact ih h.2 hb

theorem All2.get {α β : Type} {R : α → β → Prop} {as : List α} {bs : List β} (h : All2 R as bs) (t : Nat) (a : α) (b : β)
    (ha : as[t]? = some a) (hb : bs[t]? = some b) : R a b := by
  obtain ⟨a', ha', r⟩ := h.get_left hb
  rwa [Option.some.inj (ha.symm.trans ha')]

theorem All2.of_get {α β : Type} {R : α → β → Prop} : ∀ {as : List α} {bs : List β}, as.length = bs.length →
    (∀ (t : Nat) (a : α) (b : β), as[t]? = some a → bs[t]? = some b → R a b) → All2 R as bs := by
  intro as
  induction as with
  | nil =>
    intro bs hl _
    cases bs with
    | nil => trivial
    | cons _ _ => nomatch hl
  | cons x as ih =>
    intro bs hl h
    cases bs with
    | nil => nomatch hl
    | cons y bs => exact ⟨h 0 x y rfl rfl, ih (Nat.succ.inj hl) (fun t a b ha hb => h (t + 1) a b ha hb)⟩

end NucleoVerif.OptImpl
