import NucleoVerif.Lemmas.SortStep
import NucleoVerif.Lemmas.SortClean
open Std.Do
namespace NucleoVerif.PS
open Gen
set_option mvcgen.warning false
variable {α : Type} [Inhabited α] {a0 : Array α} (lt : α → α → Bool)

/-- what `partition_in_blocks` guarantees: `k` elements smaller than the pivot in front, the others behind -/
def BlocksPost (p : α) (lo hi : Nat) (a : Array α) (k : Nat) (b : Array α) : Prop :=
  Frame lo hi a b ∧ k ≤ hi - lo ∧ (∀ i, lo ≤ i → i < lo + k → lt (at' b i) p = true) ∧
  (∀ i, lo + k ≤ i → i < hi → lt (at' b i) p = false)

theorem PibInv.init (p : α) (lo hi : Nat) (a : Array α) (hlh : lo ≤ hi) (hsz : hi ≤ a.size) :
    PibInv lt p lo hi a
      { l := lo, r := hi, blockL := PS_BLOCK, blockR := PS_BLOCK, offsL := #[], startL := 0, offsR := #[], startR := 0 } a :=
  have irr := fun {P : Prop} (h : 0 < 0) => (absurd h (Nat.lt_irrefl 0) : P)
  ⟨Frame.refl _ _ _, hsz, Nat.le_refl _, hlh, Nat.le_refl _, fun _ h1 h2 => absurd h1 (Nat.not_le_of_lt h2),
   fun _ h1 h2 => absurd h1 (Nat.not_le_of_lt h2), Nat.le_refl _, Nat.le_refl _, irr, irr, fun h => irr h.1⟩

/-- the loop has fuel for `n + 2` iterations on a gap of `n`: each iteration but the last shrinks the gap by a whole block,
    so the loop ends by its `break`, after the last iteration (`k` is the number of iterations done) -/
theorem Fin.of_fuel {st : PibState} {n k : Nat} {c : Prop}
    (h : (c ∧ Fin st) ∨ st.blockL = PS_BLOCK ∧ st.blockR = PS_BLOCK ∧ st.r - st.l + PS_BLOCK * k ≤ n) (hk : k = n + 2) :
    Fin st :=
  h.elim And.right fun h => by
    have h3 := h.2.2
    have := Nat.le_mul_of_pos_left (n + 2) (show 0 < PS_BLOCK by decide)
    rw [hk] at h3
    omega

theorem blocks_of_clean {p : α} {lo hi : Nat} {a b b' : Array α} {st : PibState} (inv : PibInv lt p lo hi a st b)
    (m : Nat) (f : Frame st.l st.r b b') (h1 : st.l ≤ m) (h2 : m ≤ st.r)
    (hl : ∀ i, st.l ≤ i → i < m → lt (at' b' i) p = true) (hg : ∀ i, m ≤ i → i < st.r → lt (at' b' i) p = false) :
    BlocksPost lt p lo hi a (m - lo) b' := by
  obtain ⟨frame, hsz, hl0, hlr, hr, ltL, geR, _, _, _, _, _⟩ := inv
  have e : lo + (m - lo) = m := Nat.add_sub_cancel' (Nat.le_trans hl0 h1)
  refine ⟨frame.trans (f.mono hl0 hr), by omega, fun i k1 k2 => ?_, fun i k1 k2 => ?_⟩
  · rw [e] at k2
    by_cases e : i < st.l
    · rw [f.out i (Or.inl e)]; exact ltL i k1 e
    · exact hl i (Nat.le_of_not_lt e) k2
  · rw [e] at k1
    by_cases e : st.r ≤ i
    · rw [f.out i (Or.inr e)]; exact geR i e k2
    · exact hg i k1 (Nat.lt_of_not_le e)

theorem partitionInBlocks_spec (p : α) (lo hi : Nat) (a : Array α) :
   ⦃fun s => ⌜s.val = a ∧ lo ≤ hi ∧ hi ≤ a.size⌝⦄
   (partitionInBlocks (a0 := a0) lt lo hi p)
   ⦃⇓ k s => ⌜BlocksPost lt p lo hi a k s.val⌝⦄ := by
  have hST := fun st b => pibStep_spec (a0 := a0) lt p lo hi a st b
  have hCL := fun l r offs startL b => pibCleanL_spec (a0 := a0) lt p l r offs startL b
  have hCR := fun l r offs startR b => pibCleanR_spec (a0 := a0) lt p l r offs startR b
  mvcgen -trivial -leave [partitionInBlocks, hST, hCL, hCR]
  case inv1 =>
    exact ⇓ ⟨xs, st⟩ s => ⌜PibInv lt p lo hi a st s.val ∧
      ((xs.suffix.length = 0 ∧ Fin st) ∨
       (st.blockL = PS_BLOCK ∧ st.blockR = PS_BLOCK ∧ st.r - st.l + PS_BLOCK * xs.prefix.length ≤ hi - lo))⌝
  case vc1 => -- the precondition of `pibStep`
    rename_i st0 s0 hpre pref cur suff hsplit st _ s hinv
    have hr := running_of_cons hinv.2
    exact SPred.pure_intro ⟨rfl, hinv.1, hr.1, hr.2.1⟩
  case vc2 => -- after the last step (`hd`): `break`
    rename_i st0 s0 hpre pref cur suff hsplit st _ s1 hinv st' hd s hpost
    exact SPred.pure_intro ⟨hpost.1, Or.inl ⟨rfl, hpost.2.1 hd⟩⟩
  case vc3 => -- after any other step
    rename_i st0 s0 hpre pref cur suff hsplit st _ s1 hinv st' hd s hpost
    obtain ⟨h1, h2, h3⟩ := hpost.2.2 hd
    have hr : st.r - st.l + PS_BLOCK * pref.length ≤ hi - lo := (running_of_cons hinv.2).2.2
    refine SPred.pure_intro ⟨hpost.1, Or.inr ⟨h1, h2, ?_⟩⟩
    rw [List.length_append, List.length_singleton, Nat.mul_add, Nat.mul_one]
    omega
  case vc4 => -- on entry
    rename_i st0 s hpre
    exact SPred.pure_intro ⟨hpre.1 ▸ PibInv.init lt p lo hi a hpre.2.1 hpre.2.2, Or.inr ⟨rfl, rfl, Nat.le_refl _⟩⟩
  case vc5 => -- the left block is unfinished: the precondition of `pibCleanL`
    rename_i st0 s0 hpre st hp s hinv
    obtain ⟨inv, hfin⟩ := hinv
    have e : st.r - st.l = st.blockL := by rw [← (Fin.of_fuel hfin (range_length 0 _)).1 hp, Nat.add_sub_cancel_left]
    refine SPred.pure_intro ?_
    rw [e]
    exact ⟨rfl, (inv.pendL hp).1, inv.sL, inv.hlr, Nat.le_trans inv.hr inv.hsz⟩
  case vc6 => -- after `pibCleanL`
    rename_i st0 s0 hpre st hp s1 hinv r' s hpost
    obtain ⟨f, h1, h2, h3, h4⟩ := hpost
    exact SPred.pure_intro (blocks_of_clean lt hinv.1 r' f h1 h2 h3 h4)
  case vc7 => -- the right block is unfinished: the precondition of `pibCleanR`
    rename_i st0 s0 hpre st hnp hp s hinv
    obtain ⟨inv, hfin⟩ := hinv
    have e : st.r - st.l = st.blockR := by rw [← (Fin.of_fuel hfin (range_length 0 _)).2.1 hp, Nat.add_sub_cancel_left]
    refine SPred.pure_intro ?_
    rw [e]
    exact ⟨rfl, (inv.pendR hp).1, inv.sR, inv.hlr, Nat.le_trans inv.hr inv.hsz⟩
  case vc8 => -- after `pibCleanR`
    rename_i st0 s0 hpre st hnp hp s1 hinv l' s hpost
    obtain ⟨f, h1, h2, h3, h4⟩ := hpost
    exact SPred.pure_intro (blocks_of_clean lt hinv.1 l' f h1 h2 h3 h4)
  case vc9 => -- both blocks are finished: `l = r`
    rename_i st0 s0 hpre st hnpL hnpR s hinv
    obtain ⟨inv, hfin⟩ := hinv
    have e := (Fin.of_fuel hfin (range_length 0 _)).2.2 hnpL hnpR
    exact SPred.pure_intro (blocks_of_clean lt inv st.l (Frame.refl _ _ _) (Nat.le_refl _) inv.hlr
      (fun i k1 k2 => absurd k1 (Nat.not_le_of_lt k2)) (fun i k1 k2 => absurd k1 (Nat.not_le_of_lt (e ▸ k2))))

/-- facts of `partition` before the block partitioning (positions counted from `lo + 1`, behind the pivot): the pivot sits at
    `lo`, `v[..l)` is smaller, `v[r..)` is not.  The components are taken apart under the field names of `PEFacts`. -/
def PTFacts (lo hi : Nat) (a : Array α) (p : α) (l r : Nat) (b : Array α) : Prop :=
  Frame lo hi a b ∧ at' b lo = p ∧ l ≤ r ∧ r ≤ hi - (lo + 1) ∧ lo < hi ∧ hi ≤ b.size ∧
  (∀ i, i < l → lt (at' b (lo + 1 + i)) p = true) ∧
  (∀ i, r ≤ i → i < hi - (lo + 1) → lt (at' b (lo + 1 + i)) p = false)

theorem PTFacts.init (lo hi pivotIdx : Nat) (a : Array α) (hsz : hi ≤ a.size) (hp : lo + pivotIdx < hi) :
    PTFacts lt lo hi a (at' (a.swapIfInBounds lo (lo + pivotIdx)) lo) 0 (hi - (lo + 1)) (a.swapIfInBounds lo (lo + pivotIdx)) :=
  have hlh : lo < hi := Nat.lt_of_le_of_lt (Nat.le_add_right _ _) hp
  ⟨Frame.swap lo hi a lo (lo + pivotIdx) (Nat.le_refl _) hlh (Nat.le_add_right _ _) hp, rfl, Nat.zero_le _, Nat.le_refl _, hlh,
    by simpa using hsz, fun i hi' => absurd hi' (Nat.not_lt_zero _), fun i h1 h2 => absurd h2 (Nat.not_lt_of_le h1)⟩

theorem PTFacts.stepL {lo hi : Nat} {a b : Array α} {p : α} {l r : Nat} (f : PTFacts lt lo hi a p l r b) (hlr : l < r)
    (hc : lt (at' b (lo + 1 + l)) p = true) : PTFacts lt lo hi a p (l + 1) r b := by
  obtain ⟨frame, pivot, l_le, r_le, lo_lt, size, left, right⟩ := f
  refine ⟨frame, pivot, hlr, r_le, lo_lt, size, fun i hi' => ?_, right⟩
  by_cases e : i = l
  · subst e; exact hc
  · exact left i (Nat.lt_of_le_of_ne (Nat.le_of_lt_succ hi') e)

theorem PTFacts.stepR {lo hi : Nat} {a b : Array α} {p : α} {l r : Nat} (f : PTFacts lt lo hi a p l r b) (hlr : l < r)
    (hc : lt (at' b (lo + 1 + r - 1)) p = false) : PTFacts lt lo hi a p l (r - 1) b := by
  obtain ⟨frame, pivot, l_le, r_le, lo_lt, size, left, right⟩ := f
  refine ⟨frame, pivot, Nat.le_sub_one_of_lt hlr, Nat.le_trans (Nat.sub_le _ _) r_le, lo_lt, size, left, fun i h1 h2 => ?_⟩
  by_cases e : i = r - 1
  · subst e
    rw [← Nat.add_sub_assoc (Nat.zero_lt_of_lt hlr)]; exact hc
  · exact right i (by omega) h2

theorem PTFacts.finish {lo hi : Nat} {a s1 s : Array α} {p : α} {l r k : Nat} (f : PTFacts lt lo hi a p l r s1)
    (bp : BlocksPost lt p (lo + 1 + l) (lo + 1 + r) s1 k s) :
    PartPost lt lo hi a (l + k) (s.swapIfInBounds lo (lo + (l + k))) := by
  obtain ⟨frame, pivot, l_le, r_le, lo_lt, size, left, right⟩ := f
  obtain ⟨g1, g2, g3, g4⟩ := bp
  obtain ⟨n, rfl⟩ : ∃ n, hi = lo + 1 + n := ⟨hi - (lo + 1), (Nat.add_sub_cancel' lo_lt).symm⟩
  rw [Nat.add_sub_cancel_left] at r_le right
  rw [Nat.add_sub_add_left] at g2
  have hp : at' s lo = p :=
    (g1.out lo (Or.inl (Nat.lt_of_lt_of_le (Nat.lt_succ_self lo) (Nat.le_add_right _ _)))).trans pivot
  -- the two regions around the future pivot position `lo + (l + k)`, before the pivot is swapped in
  have hT : ∀ i, lo + 1 ≤ i → i < lo + 1 + (l + k) → lt (at' s i) p = true := by
    intro i h1 h2
    by_cases e : i < lo + 1 + l
    · rw [g1.out i (Or.inl e)]
      exact SegAll.of_offsets (m := 0) (P := fun x => lt x p = true) (fun j _ hj => left j hj) i h1 e
    · exact g3 i (Nat.le_of_not_lt e) (by omega)
  have hF : ∀ i, lo + 1 + (l + k) ≤ i → i < lo + 1 + n → lt (at' s i) p = false := by
    intro i h1 h2
    by_cases e : i < lo + 1 + r
    · exact g4 i (by omega) e
    · rw [g1.out i (Or.inr (Nat.le_of_not_lt e))]
      exact SegAll.of_offsets (P := fun x => lt x p = false) right i (Nat.le_of_not_lt e) h2
  have hm : lo + (l + k) < lo + 1 + n := by omega
  have hsw := fun i => at_swap s lo (lo + (l + k)) i (by rw [g1.size]; omega) (by rw [g1.size]; omega)
  have hmid : at' (s.swapIfInBounds lo (lo + (l + k))) (lo + (l + k)) = p := by
    rw [hsw]
    by_cases e : lo + (l + k) = lo
    · rw [if_pos e, e]; exact hp
    · rw [if_neg e, if_pos rfl]; exact hp
  refine ⟨frame.trans ((g1.mono (by omega) (by omega)).trans
      (Frame.swap lo _ s _ _ (Nat.le_refl _) lo_lt (Nat.le_add_right _ _) hm)), hm, fun i h1 h2 => ?_, fun i h1 h2 => ?_⟩
  · rw [hmid, hsw, if_neg (Nat.ne_of_lt h2)]
    by_cases e : i = lo
    · rw [if_pos e]; exact hT _ (by omega) (by omega)
    · rw [if_neg e]; exact hT i (by omega) (by omega)
  · rw [hmid, hsw, if_neg (by omega), if_neg (Nat.ne_of_gt h1)]
    exact hF i (by omega) h2

/-- `partition` with its two scanning loops named (by `rfl`) -/
theorem partition_eq (lo hi pivotIdx : Nat) : partition (a0 := a0) lt lo hi pivotIdx = (do
    swp lo (lo + pivotIdx)
    let p ← rd lo
    let l ← scanWhile (· < hi - (lo + 1)) (fun l => lo + 1 + l) (fun x => lt x p) (· + 1) (hi - (lo + 1)) 0
    let r ← scanWhile (l < ·) (fun r => lo + 1 + r - 1) (fun x => !lt x p) (· - 1) (hi - (lo + 1)) (hi - (lo + 1))
    let k ← partitionInBlocks lt (lo + 1 + l) (lo + 1 + r) p
    swp lo (lo + (l + k))
    return (l + k, l ≥ r)) := rfl

theorem partition_spec : PartitionSpec lt := by
  intro a0 lo hi pivotIdx a
  have hPB := fun p lo hi a => partitionInBlocks_spec (a0 := a0) lt p lo hi a
  have hL := fun (p : α) =>
    scanWhile_spec (a0 := a0) (· < hi - (lo + 1)) (fun l => lo + 1 + l) (fun x => lt x p) (· + 1) (hi - (lo + 1)) 0
      (fun l b => PTFacts lt lo hi a p l (hi - (lo + 1)) b) (fun l => hi - (lo + 1) - l)
      (fun l b f hg hc => ⟨f.stepL lt hg hc, scan_up_lt hg⟩) (fun b f => Nat.le_refl _)
  have hR := fun (p : α) (l : Nat) =>
    scanWhile_spec (a0 := a0) (l < ·) (fun r => lo + 1 + r - 1) (fun x => !lt x p) (· - 1) (hi - (lo + 1)) (hi - (lo + 1))
      (fun r b => PTFacts lt lo hi a p l r b) (fun r => r - l)
      (fun r b f hg hc => ⟨f.stepR lt hg ((Bool.not_eq_true' _).mp hc), scan_down_lt hg⟩) (fun b f => Nat.sub_le _ _)
  rw [partition_eq]
  mvcgen -trivial -leave [rd_spec, swp_spec, hPB, hL, hR]
  case vc1 => -- the scan from the left starts, after the first swap
    rename_i s hpre
    obtain ⟨rfl, hsz, hpv⟩ := hpre
    exact SPred.pure_intro (PTFacts.init lt lo hi pivotIdx s.val hsz hpv)
  case vc2 => -- the scan from the right starts
    rename_i s0 hpre l s hL'
    exact SPred.pure_intro hL'.1
  case vc3 => -- the precondition of `partitionInBlocks` on `v[l..r)`
    rename_i s0 hpre l s1 hL' r s hR'
    obtain ⟨frame, pivot, l_le, r_le, lo_lt, size, left, right⟩ := hR'.1
    exact SPred.pure_intro ⟨rfl, Nat.add_le_add_left l_le _, by omega⟩
  case vc4 => -- after it, the pivot is swapped into its place
    rename_i s0 hpre l s1 hL' r s2 hR' k s hbp
    exact SPred.pure_intro (hR'.1.finish lt hbp)
end NucleoVerif.PS
