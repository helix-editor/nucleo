import NucleoVerif.Model.Pattern
/-! What the pieces of the parser model (`Model/Pattern.lean`) do on a given form of input: the splitter, the three
stages of `parseAtom`, `replaceEscSpace`, and the fields of `newInner` that do not depend on the text. -/
namespace NucleoVerif

theorem eq_of_reverse_eq_cons {x t : List Nat} {a : Nat} (h : x.reverse = a :: t) : x = t.reverse ++ [a] := by
  rw [List.reverse_eq_iff.mp h, List.reverse_cons]

theorem eq_of_reverse_eq_cons_cons {x t : List Nat} {a b : Nat} (h : x.reverse = a :: b :: t) :
    x = t.reverse ++ [b, a] := by
  rw [List.reverse_eq_iff.mp h, List.reverse_cons, List.reverse_cons, List.append_assoc]; rfl

theorem patternAtomsGo_head : ∀ (s : List Nat) (saw : Bool) (cur : List Nat),
    ∃ s1 more, patternAtomsGo s saw cur = (cur.reverse ++ s1) :: more ∧ ∀ c ∈ s1, c ∈ s := by
  intro s
  induction s with
  | nil => intro saw cur; exact ⟨[], [], by simp [patternAtomsGo], by simp⟩
  | cons c cs ih =>
    intro saw cur
    unfold patternAtomsGo
    split
    · exact ⟨[], patternAtomsGo cs saw [], by simp, by simp⟩
    · obtain ⟨s1, more, h1, h2⟩ := ih (decide (c = 92)) (c :: cur)
      refine ⟨c :: s1, more, ?_, ?_⟩
      · rw [h1]; simp
      · intro d hd
        rcases List.mem_cons.mp hd with e | e
        · simp [e]
        · exact List.mem_cons_of_mem _ (h2 d e)

theorem patternAtomsGo_mem : ∀ (s : List Nat) (saw : Bool) (cur : List Nat),
    ∀ p ∈ patternAtomsGo s saw cur, ∀ c ∈ p, c ∈ cur ∨ c ∈ s := by
  intro s
  induction s with
  | nil =>
    intro saw cur p hp c hc
    rw [List.mem_singleton.mp hp] at hc
    exact Or.inl (List.mem_reverse.mp hc)
  | cons d ds ih =>
    intro saw cur p hp c hc
    unfold patternAtomsGo at hp
    split at hp
    · rcases List.mem_cons.mp hp with rfl | hp
      · exact Or.inl (List.mem_reverse.mp hc)
      · rcases ih saw [] p hp c hc with h | h
        · cases h
        · exact Or.inr (List.mem_cons_of_mem _ h)
    · rcases ih (decide (d = 92)) (d :: cur) p hp c hc with h | h
      · rcases List.mem_cons.mp h with rfl | h
        · exact Or.inr List.mem_cons_self
        · exact Or.inl h
      · exact Or.inr (List.mem_cons_of_mem _ h)

theorem stripNeg_plain (raw : List Nat) (h1 : ∀ r, raw ≠ 33 :: r) (h2 : ∀ r, raw ≠ 92 :: 33 :: r) :
    stripNeg raw = (false, raw) := by
  unfold stripNeg
  split
  · exact absurd rfl (h1 _)
  · exact absurd rfl (h2 _)
  · rfl

theorem stripKind_plain (a1 : List Nat) (h1 : ∀ r, a1 ≠ 94 :: r) (h2 : ∀ r, a1 ≠ 39 :: r)
    (h3 : ∀ r, a1 ≠ 92 :: 94 :: r) (h4 : ∀ r, a1 ≠ 92 :: 39 :: r) : stripKind a1 = (.fuzzy, a1) := by
  unfold stripKind
  split
  · exact absurd rfl (h1 _)
  · exact absurd rfl (h2 _)
  · exact absurd rfl (h3 _)
  · exact absurd rfl (h4 _)
  · rfl

theorem stripNeg_sublist (r : List Nat) : (stripNeg r).2.Sublist r := by
  unfold stripNeg; split
  · exact List.sublist_cons_self _ _
  · exact List.sublist_cons_self _ _
  · exact List.Sublist.refl _

theorem stripKind_sublist (r : List Nat) : (stripKind r).2.Sublist r := by
  unfold stripKind; split
  · exact List.sublist_cons_self _ _
  · exact List.sublist_cons_self _ _
  · exact List.sublist_cons_self _ _
  · exact List.sublist_cons_self _ _
  · exact List.Sublist.refl _

theorem stripKind_kinds (r : List Nat) :
    (stripKind r).1 = .fuzzy ∨ (stripKind r).1 = .substring ∨ (stripKind r).1 = .prefix := by
  unfold stripKind; split <;> simp

theorem endsWith_iff (l s : List Nat) : endsWith l s = true ↔ s <:+ l := by
  unfold endsWith
  rw [List.suffix_iff_eq_drop, Bool.and_eq_true, decide_eq_true_iff, beq_iff_eq]
  constructor
  · exact fun h => h.2.symm
  · intro h
    have := congrArg List.length h
    rw [List.length_drop] at this
    exact ⟨by omega, h.symm⟩

theorem endsWith_getLast? {l s : List Nat} {x : Nat} (h : endsWith l s = true) (hs : s.getLast? = some x) :
    l.getLast? = some x := by
  obtain ⟨a, rfl⟩ := (endsWith_iff l s).mp h
  rw [List.getLast?_append, hs]
  rfl

theorem dropLast2_append (t : List Nat) (a b : Nat) : dropLast2 (t ++ [a, b]) = t := by
  unfold dropLast2
  rw [List.length_append, List.take_left' (by simp)]

theorem dropLast1_append (t : List Nat) (a : Nat) : dropLast1 (t ++ [a]) = t := by
  unfold dropLast1
  rw [List.length_append, List.take_left' (by simp)]

theorem stripDollar_escaped (k : AtomKind) (t : List Nat) : stripDollar k (t ++ [92, 36]) = (k, true, t) := by
  unfold stripDollar
  rw [if_pos ((endsWith_iff _ _).mpr ⟨t, rfl⟩), dropLast2_append]

theorem stripDollar_dollar (k : AtomKind) (t : List Nat) (h : t.getLast? ≠ some 92) :
    stripDollar k (t ++ [36]) = ((if k = .fuzzy then .postfix else .exact), false, t) := by
  have h1 : ¬ endsWith (t ++ [36]) [92, 36] = true := fun e => by
    obtain ⟨a, ha⟩ := (endsWith_iff _ _).mp e
    have ht : a ++ [92] = t := List.append_cancel_right (bs := [36]) (by rw [List.append_assoc]; exact ha)
    exact h (ht ▸ List.getLast?_concat)
  unfold stripDollar
  rw [if_neg h1, if_pos ((endsWith_iff _ _).mpr ⟨t, rfl⟩), dropLast1_append]

theorem stripDollar_plain (k : AtomKind) (y : List Nat) (h : y.getLast? ≠ some 36) : stripDollar k y = (k, false, y) := by
  have no : ∀ s, s.getLast? = some 36 → ¬ endsWith y s = true := fun s hs e => h (endsWith_getLast? e hs)
  unfold stripDollar
  rw [if_neg (no _ rfl), if_neg (no _ rfl)]

theorem replaceEscSpace_cons_ne (c : Nat) (cs : List Nat) (h : c ≠ 92) :
    replaceEscSpace (c :: cs) = c :: replaceEscSpace cs := by
  cases cs with
  | nil => rfl
  | cons d r => simp [replaceEscSpace, h]

theorem replaceEscSpace_bs_ne (d : Nat) (cs : List Nat) (h : d ≠ 32) :
    replaceEscSpace (92 :: d :: cs) = 92 :: replaceEscSpace (d :: cs) := by
  simp [replaceEscSpace, h]

theorem replaceEscSpace_bs_space (cs : List Nat) : replaceEscSpace (92 :: 32 :: cs) = 32 :: replaceEscSpace cs := by
  simp [replaceEscSpace]

theorem replaceEscSpace_getLast? : ∀ (u : List Nat), (replaceEscSpace u).getLast? = u.getLast? := by
  intro u
  induction u using replaceEscSpace.induct with
  | case1 => rfl
  | case2 c => rfl
  | case3 c d r hcd ih =>
    simp only [replaceEscSpace, hcd, and_self, if_true, List.getLast?_cons, ih, Option.getD_some]
  | case4 c d r hcd ih =>
    simp only [replaceEscSpace, hcd, if_false]
    rw [List.getLast?_cons, ih, ← List.getLast?_cons]

theorem replaceEscSpace_sublist : ∀ (u : List Nat), (replaceEscSpace u).Sublist u := by
  intro u
  induction u using replaceEscSpace.induct with
  | case1 => exact List.Sublist.slnil
  | case2 c => exact List.Sublist.refl _
  | case3 c d r hcd ih =>
    obtain ⟨rfl, rfl⟩ := hcd
    simp only [replaceEscSpace, and_self, if_true]
    exact (ih.cons_cons 32).cons 92
  | case4 c d r hcd ih =>
    simp only [replaceEscSpace, hcd, if_false]
    exact ih.cons_cons c

theorem asciiLower_not_upper (c : Nat) : ¬ (65 ≤ asciiLower c ∧ asciiLower c ≤ 90) := by
  unfold asciiLower; split <;> omega

theorem asciiLower_lt (c : Nat) (h : c < 128) : asciiLower c < 128 := by
  unfold asciiLower; split <;> omega

theorem newInner_negative (seg : Seg) (needle : List Nat) (case : CaseMatching) (norm : Normalization) (kind : AtomKind)
    (escapeWs appendDollar : Bool) : (newInner seg needle case norm kind escapeWs appendDollar).negative = false := by
  unfold newInner
  cases needle.all (· < 128) <;> rfl

theorem newInner_kind (seg : Seg) (needle : List Nat) (case : CaseMatching) (norm : Normalization) (kind : AtomKind)
    (escapeWs appendDollar : Bool) : (newInner seg needle case norm kind escapeWs appendDollar).kind = kind := by
  unfold newInner
  cases needle.all (· < 128) <;> rfl

theorem Atom.with_negative (a : Atom) (h : a.negative = false) : { a with negative := false } = a := by
  cases a
  cases h
  rfl

end NucleoVerif
