import NucleoVerif.Lemmas.CalcScore
import NucleoVerif.Lemmas.Subseq
import NucleoVerif.Lemmas.Entry
/-! `calculate_score` walks the window `[start, end)` and pushes an index for every haystack character that equals the
needle character it is waiting for.  That is a witness of the match when the window is *tight*: the first needle
character sits at `start`, and the rest of the needle is a subsequence of the remaining window but not of the window
without its last character, so the walk consumes the last needle character at `end - 1` and pushes nothing after it. -/
namespace NucleoVerif
open Gen Spec NucleoVerif.Sub DP

/-- `t` is a subsequence of `L` and needs the last element of `L` -/
def Tight (t L : List Nat) : Prop := subseqB t L = true ∧ subseqB t L.dropLast = false

theorem subseqB_nil_right (t : List Nat) (h : subseqB t [] = true) : t = [] := by
  cases t with
  | nil => rfl
  | cons a as => simp [subseqB] at h

theorem Tight.ne_nil {t L : List Nat} (h : Tight t L) : t ≠ [] ∧ L ≠ [] := by
  constructor
  · rintro rfl
    have := h.2
    simp [subseqB] at this
  · rintro rfl
    cases subseqB_nil_right t h.1
    have := h.2
    simp [subseqB] at this

/-- when reading `x` turns the question "is `t` a subsequence of `x :: M`" into that of `t'` and `M` (`hs`), it does the
    same for tightness: `t' ≠ []` keeps `L` non-empty, so `x :: L` and `L` lose the same last element -/
theorem tight_cons_iff {t t' : List Nat} {x : Nat} {L : List Nat} (ht' : t' ≠ [])
    (hs : ∀ M, subseqB t (x :: M) = subseqB t' M) : Tight t (x :: L) ↔ Tight t' L := by
  have hne : subseqB t' L = true → L ≠ [] := fun h e => ht' (subseqB_nil_right t' (e ▸ h))
  constructor
  · intro ⟨h1, h2⟩
    rw [hs] at h1
    rw [List.dropLast_cons_of_ne_nil (hne h1), hs] at h2
    exact ⟨h1, h2⟩
  · intro ⟨h1, h2⟩
    exact ⟨by rw [hs]; exact h1, by rw [List.dropLast_cons_of_ne_nil (hne h1), hs]; exact h2⟩

theorem tight_cons_match {a b : Nat} {bs L : List Nat} : Tight (a :: b :: bs) (a :: L) ↔ Tight (b :: bs) L :=
  tight_cons_iff (List.cons_ne_nil b bs) fun M => by simp [subseqB]

theorem tight_cons_skip {a x : Nat} {as L : List Nat} (hx : a ≠ x) : Tight (a :: as) (x :: L) ↔ Tight (a :: as) L :=
  tight_cons_iff (List.cons_ne_nil a as) fun M => by simp [subseqB, hx]

theorem tight_single_cons {a : Nat} {L : List Nat} : Tight [a] (a :: L) ↔ L = [] := by
  constructor
  · intro ⟨_, h2⟩
    cases L with
    | nil => rfl
    | cons d ds => simp [subseqB] at h2
  · rintro rfl; exact ⟨by simp [subseqB], by simp [subseqB]⟩

theorem Tight.drop {t L : List Nat} (h : Tight t L) (d : Nat) (hs : subseqB t (L.drop d) = true) : Tight t (L.drop d) := by
  refine ⟨hs, ?_⟩
  cases hf : subseqB t (L.drop d).dropLast with
  | false => rfl
  | true =>
    have hsub : List.Sublist (L.drop d).dropLast L.dropLast := by
      rw [List.dropLast_eq_take, List.dropLast_eq_take, List.length_drop, Nat.sub_right_comm, ← List.drop_take]
      exact List.drop_sublist _ _
    have := subseqB_of_sublist_hay t _ _ hf hsub
    rw [h.2] at this; cases this

theorem csLoop_tight_last (cfg : Cfg) (ext : Ext) (hrep : Rep) (g : Nat → Nat) :
    ∀ (cs : List Nat) (l : CsLoop) (pos e : Nat), pos + cs.length = e →
      Tight (l.needleChar :: l.rest) (cs.map (cnorm cfg hrep)) →
      (∀ k c, cs[k]? = some c → g (pos + k) = cnorm cfg hrep c) →
      ∃ is : List Nat, (csLoop cfg ext hrep l pos cs).idxRev = is.reverse ++ l.idxRev ∧ is.Pairwise (· < ·) ∧
        (∀ x ∈ is, pos ≤ x ∧ x < e) ∧ is.map g = l.needleChar :: l.rest ∧ is.getLast? = some (e - 1) := by
  intro cs
  induction cs with
  | nil => intro l pos e _ ht _; exact absurd rfl ht.ne_nil.2
  | cons c cs ih =>
    intro l pos e he ht hg
    have hg0 : g pos = cnorm cfg hrep c := hg 0 c rfl
    have hgs : ∀ k c', cs[k]? = some c' → g (pos + 1 + k) = cnorm cfg hrep c' := fun k c' hk => by
      rw [Nat.add_right_comm]; exact hg (k + 1) c' hk
    have he' : pos + 1 + cs.length = e := (Nat.add_right_comm pos 1 cs.length).trans he
    have hpos : pos < e := he ▸ Nat.lt_add_of_pos_right (Nat.succ_pos _)
    rw [List.map_cons] at ht
    rw [csLoop]
    by_cases hm : cnorm cfg hrep c = l.needleChar
    · cases hr : l.rest with
      | nil =>
        -- the last awaited character: the window must end here
        rw [hr, hm, tight_single_cons] at ht
        cases List.map_eq_nil_iff.mp ht
        rw [csStep_of_eq_nil cfg ext hrep l pos c hm hr]
        refine ⟨[pos], rfl, List.pairwise_singleton _ _, ?_, by rw [List.map_singleton, hg0, hm], ?_⟩
        · intro x hx
          cases List.mem_singleton.mp hx
          exact ⟨Nat.le_refl _, hpos⟩
        · rw [← he]; rfl
      | cons nx r' =>
        rw [hr, hm, tight_cons_match] at ht
        rw [csStep_of_eq_cons cfg ext hrep l pos c nx r' hm hr]
        obtain ⟨is, i1, i2, i3, i4, i5⟩ :=
          ih ⟨stepMatch cfg l.st (charClass cfg ext c), nx, r', pos :: l.idxRev⟩ (pos + 1) e he' ht hgs
        refine ⟨pos :: is, by rw [i1, List.reverse_cons, List.append_assoc]; rfl, ?_, ?_,
          by rw [List.map_cons, hg0, hm, i4], ?_⟩
        · exact List.pairwise_cons.mpr ⟨fun x hx => (i3 x hx).1, i2⟩
        · intro x hx
          rcases List.mem_cons.mp hx with rfl | hx
          · exact ⟨Nat.le_refl _, hpos⟩
          · exact ⟨Nat.le_of_succ_le (i3 x hx).1, (i3 x hx).2⟩
        · rw [List.getLast?_cons, i5]; rfl
    · -- not the awaited character: skipped
      rw [tight_cons_skip (Ne.symm hm)] at ht
      rw [csStep_of_ne cfg ext hrep l pos c hm]
      obtain ⟨is, i1, i2, i3, i4, i5⟩ := ih { l with st := stepSkip l.st (charClass cfg ext c) } (pos + 1) e he' ht hgs
      exact ⟨is, i1, i2, fun x hx => ⟨Nat.le_of_succ_le (i3 x hx).1, (i3 x hx).2⟩, i4, i5⟩

/-- a window on which `calculate_score` yields a witness -/
def TightWindow (cfg : Cfg) (hrep : Rep) (h : List Nat) (n0 : Nat) (nrest : List Nat) (start e : Nat) : Prop :=
  start < e ∧ e ≤ h.length ∧ chAt cfg hrep h start = n0 ∧
  (match nrest with
   | [] => e = start + 1
   | t => Tight t (((h.drop (start + 1)).take (e - (start + 1))).map (cnorm cfg hrep)))

theorem chAt_drop (cfg : Cfg) (hrep : Rep) (h : List Nat) (s m : Nat) (k c : Nat)
    (hk : ((h.drop s).take m)[k]? = some c) : chAt cfg hrep h (s + k) = cnorm cfg hrep c := by
  rw [chAt, window_getElem? hk]
  rfl

theorem chAt_of_norm (cfg : Cfg) (hrep : Rep) (h : List Nat) (x n0 : Nat)
    (hx : x < h.length) (h0 : norm cfg hrep h[x] = n0) : chAt cfg hrep h x = n0 := by
  rw [chAt, List.getElem?_eq_getElem hx, Option.map_some, Option.getD_some, cnorm_eq_norm]
  exact h0

theorem calculateScore_tight_last (cfg : Cfg) (ext : Ext) (hrep : Rep) (h : List Nat) (n0 : Nat) (nrest : List Nat) (start e : Nat)
    (tw : TightWindow cfg hrep h n0 nrest start e) :
    (calculateScore cfg ext hrep h (n0 :: nrest) start e).2.Pairwise (· < ·) ∧
    (∀ x ∈ (calculateScore cfg ext hrep h (n0 :: nrest) start e).2, start ≤ x ∧ x < e) ∧
    (calculateScore cfg ext hrep h (n0 :: nrest) start e).2.map (chAt cfg hrep h) = n0 :: nrest ∧
    (calculateScore cfg ext hrep h (n0 :: nrest) start e).2.getLast? = some (e - 1) := by
  obtain ⟨h1, h2, h3, h4⟩ := tw
  rw [calculateScore_cons cfg ext hrep h n0 nrest start e (Nat.lt_of_lt_of_le h1 h2), csRun]
  generalize stInit cfg _ _ = st0
  cases nrest with
  | nil =>
    cases (h4 : e = start + 1)
    rw [Nat.sub_self, List.take_zero]
    exact ⟨List.pairwise_singleton _ _, fun x hx => by cases List.mem_singleton.mp hx; exact ⟨Nat.le_refl _, h1⟩,
      by rw [← h3]; rfl, rfl⟩
  | cons n1 r =>
    have hlen : start + 1 + ((h.drop (start + 1)).take (e - (start + 1))).length = e := by
      rw [List.length_take, List.length_drop, Nat.min_eq_left (Nat.sub_le_sub_right h2 _), Nat.add_sub_of_le h1]
    obtain ⟨is, i1, i2, i3, i4, i5⟩ := csLoop_tight_last cfg ext hrep (chAt cfg hrep h) _ ⟨st0, n1, r, [start]⟩
      (start + 1) e hlen h4 (fun k c hk => chAt_drop cfg hrep h (start + 1) _ k c hk)
    have i1' : (csLoop cfg ext hrep ⟨st0, n1, r, [start]⟩ (start + 1) ((h.drop (start + 1)).take (e - (start + 1)))).idxRev =
        is.reverse ++ [start] := i1
    rw [show needleAfterFirst n0 (n1 :: r) = (n1, r) from rfl, i1', List.reverse_append, List.reverse_reverse,
      List.reverse_singleton, List.singleton_append]
    refine ⟨List.pairwise_cons.mpr ⟨fun x hx => (i3 x hx).1, i2⟩, ?_, by rw [List.map_cons, h3, i4], ?_⟩
    · intro x hx
      rcases List.mem_cons.mp hx with rfl | hx
      · exact ⟨Nat.le_refl _, h1⟩
      · exact ⟨Nat.le_of_succ_le (i3 x hx).1, (i3 x hx).2⟩
    · rw [List.getLast?_cons, i5]; rfl

theorem witness_of_tight (cfg : Cfg) (ext : Ext) (hrep : Rep) (h : List Nat) (n0 : Nat) (nrest : List Nat) (start e : Nat)
    (tw : TightWindow cfg hrep h n0 nrest start e) :
    validWitnessB cfg hrep h (n0 :: nrest) (calculateScore cfg ext hrep h (n0 :: nrest) start e).2 = true := by
  obtain ⟨w1, w2, w3, _⟩ := calculateScore_tight_last cfg ext hrep h n0 nrest start e tw
  exact validWitness_of_spells cfg hrep h _ _ w1 (fun x hx => Nat.lt_of_lt_of_le (w2 x hx).2 tw.2.1) w3

theorem TightWindow.of_rest (cfg : Cfg) (hrep : Rep) (h : List Nat) (n0 : Nat) (nrest : List Nat) (start k : Nat)
    (hk : start + 1 + k ≤ h.length) (h0 : chAt cfg hrep h start = n0)
    (ht : match nrest with
      | [] => k = 0
      | t => Tight t (((h.drop (start + 1)).take k).map (cnorm cfg hrep))) :
    TightWindow cfg hrep h n0 nrest start (start + 1 + k) := by
  refine ⟨by omega, hk, h0, ?_⟩
  rw [Nat.add_sub_cancel_left]
  cases nrest with
  | nil => rw [show k = 0 from ht]
  | cons n1 r => exact ht

theorem tightWindow_of_exact (cfg : Cfg) (hrep : Rep) (h : List Nat) (n0 : Nat) (nrest : List Nat) (start e : Nat)
    (hl : (n0 :: nrest).length = e - start)
    (hwin : ((h.drop start).take (e - start)).map (cnorm cfg hrep) = n0 :: nrest) :
    TightWindow cfg hrep h n0 nrest start e := by
  have hlen := congrArg List.length hwin
  rw [List.length_map, List.length_take, List.length_drop, ← hl, List.length_cons] at hlen
  rw [List.length_cons] at hl
  -- all `nrest.length + 1` characters of the window are inside the haystack
  have hfit : nrest.length + 1 ≤ h.length - start := by rw [← hlen]; exact Nat.min_le_right _ _
  obtain rfl : e = start + 1 + nrest.length := by omega
  have hst : start < h.length := by omega
  rw [← hl, List.drop_eq_getElem_cons hst, List.take_succ_cons, List.map_cons, List.cons.injEq] at hwin
  refine TightWindow.of_rest cfg hrep h n0 nrest start nrest.length (by omega)
    (by simp [chAt, List.getElem?_eq_getElem hst, hwin.1]) ?_
  cases nrest with
  | nil => rfl
  | cons n1 r =>
    show Tight (n1 :: r) _
    rw [hwin.2]
    refine ⟨(subseqB_iff_sublist _ _).mpr (List.Sublist.refl _), ?_⟩
    cases hs : subseqB (n1 :: r) (n1 :: r).dropLast with
    | false => rfl
    | true =>
      have := subseqB_length _ _ hs
      rw [List.length_dropLast] at this
      exact absurd this (Nat.not_succ_le_self _)

theorem exactImpl_tight (cfg : Cfg) (ext : Ext) (hrep nrep : Rep) (h : List Nat) (n0 : Nat) (ns : List Nat) (start end_ : Nat)
    (hk1 : ¬ (hrep = .ascii ∧ nrep = .unicode)) (hn : (n0 :: ns).map (norm cfg nrep) = n0 :: ns) (r : Nat × List Nat)
    (hres : exactImpl cfg ext hrep nrep h (n0 :: ns) start end_ = some r) :
    TightWindow cfg hrep h n0 ns start end_ ∧ r = calculateScore cfg ext hrep h (n0 :: ns) start end_ := by
  obtain ⟨hl, hwin, hcs⟩ := exactImpl_some cfg ext hrep nrep h (n0 :: ns) start end_ hk1 hn r hres
  exact ⟨tightWindow_of_exact cfg hrep h n0 ns start end_ hl hwin, hcs⟩

end NucleoVerif
