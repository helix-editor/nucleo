import NucleoVerif.Lemmas.SortBase
open Std.Do
namespace NucleoVerif.PS
set_option mvcgen.warning false
variable {α : Type} [Inhabited α] {a0 : Array α} (lt : α → α → Bool)

theorem get!_push_lt (o : Array Nat) (x i : Nat) (h : i < o.size) : (o.push x)[i]! = o[i]! := by
  simp [Array.getElem!_eq_getD, Array.getD_eq_getD_getElem?, Array.getElem?_push, h, Nat.ne_of_lt h]

theorem get!_push_eq (o : Array Nat) (x : Nat) : (o.push x)[o.size]! = x := by
  simp

/-- `v[l .. l+block)` has been scanned: `offs[start..]` are exactly the offsets of its elements that are not smaller
    than the pivot -/
structure ScanL (p : α) (b : Array α) (l block : Nat) (offs : Array Nat) (start : Nat) : Prop where
  mono : ∀ i j, i < j → j < offs.size → offs[i]! < offs[j]!
  bound : ∀ i, i < offs.size → offs[i]! < block
  cls : ∀ k, k < block → (lt (at' b (l + k)) p = false ↔ ∃ i, start ≤ i ∧ i < offs.size ∧ offs[i]! = k)

/-- `v[r-block .. r)` has been scanned from the right: `offs[start..]` are exactly the offsets (from `r-1` downwards) of
    its elements that are smaller than the pivot -/
structure ScanR (p : α) (b : Array α) (r block : Nat) (offs : Array Nat) (start : Nat) : Prop where
  mono : ∀ i j, i < j → j < offs.size → offs[i]! < offs[j]!
  bound : ∀ i, i < offs.size → offs[i]! < block
  cls : ∀ k, k < block → (lt (at' b (r - 1 - k)) p = true ↔ ∃ i, start ≤ i ∧ i < offs.size ∧ offs[i]! = k)

/-- What the two sides share, with the side abstracted into `c k` = "the element at offset `k` of the block is out of
    place": `offs[s..e)`, the *pending* offsets, lists in increasing order exactly the offsets `k < block` with `c k`; the
    offsets before `s` are *settled*, their elements have been exchanged.  (`e` is `offs.size` except in the clean-up
    loops, which consume the offsets from the end.) -/
structure Pend (c : Nat → Prop) (block : Nat) (offs : Array Nat) (s e : Nat) : Prop where
  he : e ≤ offs.size
  mono : ∀ i j, i < j → j < e → offs[i]! < offs[j]!
  bound : ∀ i, i < e → offs[i]! < block
  cls : ∀ k, k < block → (c k ↔ ∃ i, s ≤ i ∧ i < e ∧ offs[i]! = k)

theorem ScanL.pend {p : α} {b : Array α} {l bl : Nat} {offs : Array Nat} {m : Nat} (h : ScanL lt p b l bl offs m) :
    Pend (fun k => lt (at' b (l + k)) p = false) bl offs m offs.size := ⟨Nat.le_refl _, h.mono, h.bound, h.cls⟩

theorem ScanR.pend {p : α} {b : Array α} {r br : Nat} {offs : Array Nat} {m : Nat} (h : ScanR lt p b r br offs m) :
    Pend (fun k => lt (at' b (r - 1 - k)) p = true) br offs m offs.size := ⟨Nat.le_refl _, h.mono, h.bound, h.cls⟩

namespace Pend
variable {c c' : Nat → Prop} {block : Nat} {offs : Array Nat} {s e : Nat}

theorem scanL {p : α} {b : Array α} {l : Nat} (h : Pend (fun k => lt (at' b (l + k)) p = false) block offs s offs.size) :
    ScanL lt p b l block offs s := ⟨h.mono, h.bound, h.cls⟩

theorem scanR {p : α} {b : Array α} {r : Nat} (h : Pend (fun k => lt (at' b (r - 1 - k)) p = true) block offs s offs.size) :
    ScanR lt p b r block offs s := ⟨h.mono, h.bound, h.cls⟩

theorem init : Pend c 0 #[] 0 (#[] : Array Nat).size :=
  ⟨Nat.le_refl _, fun _ _ _ h => absurd h (Nat.not_lt_zero _), fun _ h => absurd h (Nat.not_lt_zero _),
   fun _ h => absurd h (Nat.not_lt_zero _)⟩

theorem push {n : Nat} (h : Pend c n offs 0 offs.size) (hc : c n) : Pend c (n + 1) (offs.push n) 0 (offs.push n).size := by
  rw [Array.size_push]
  refine ⟨Nat.le_of_eq (Array.size_push _).symm, fun i j hij hj => ?_, fun i hi => ?_, fun k hk => ?_⟩
  · rcases Nat.lt_succ_iff_lt_or_eq.1 hj with e | rfl
    · rw [get!_push_lt _ _ _ (Nat.lt_trans hij e), get!_push_lt _ _ _ e]; exact h.mono i j hij e
    · rw [get!_push_lt _ _ _ hij, get!_push_eq]; exact h.bound i hij
  · rcases Nat.lt_succ_iff_lt_or_eq.1 hi with e | rfl
    · rw [get!_push_lt _ _ _ e]; exact Nat.lt_succ_of_lt (h.bound i e)
    · rw [get!_push_eq]; exact Nat.lt_succ_self _
  · rcases Nat.lt_succ_iff_lt_or_eq.1 hk with e | rfl
    · rw [h.cls k e]
      constructor
      · rintro ⟨i, h0, hi, he⟩
        exact ⟨i, h0, Nat.lt_succ_of_lt hi, by rw [get!_push_lt _ _ _ hi]; exact he⟩
      · rintro ⟨i, h0, hi, he⟩
        rcases Nat.lt_succ_iff_lt_or_eq.1 hi with e2 | rfl
        · exact ⟨i, h0, e2, by rw [get!_push_lt _ _ _ e2] at he; exact he⟩
        · rw [get!_push_eq] at he; exact absurd he (Nat.ne_of_gt e)
    · exact ⟨fun _ => ⟨offs.size, Nat.zero_le _, Nat.lt_succ_self _, get!_push_eq _ _⟩, fun _ => hc⟩

theorem skip {n : Nat} (h : Pend c n offs s e) (hc : ¬ c n) : Pend c (n + 1) offs s e := by
  refine ⟨h.he, h.mono, fun i hi => Nat.lt_succ_of_lt (h.bound i hi), fun k hk => ?_⟩
  rcases Nat.lt_succ_iff_lt_or_eq.1 hk with e | rfl
  · exact h.cls k e
  · exact ⟨fun h1 => absurd h1 hc, fun ⟨i, _, hi, he⟩ => absurd he (Nat.ne_of_lt (h.bound i hi))⟩

theorem inj (h : Pend c block offs s e) {i j : Nat} (hi : i < e) (hj : j < e) (eq : offs[i]! = offs[j]!) : i = j := by
  rcases Nat.lt_trichotomy i j with hlt | heq | hlt
  · exact absurd eq (Nat.ne_of_lt (h.mono i j hlt hj))
  · exact heq
  · exact absurd eq.symm (Nat.ne_of_lt (h.mono j i hlt hi))

theorem pending (h : Pend c block offs s e) (i : Nat) (hs : s ≤ i) (hi : i < e) : c offs[i]! :=
  (h.cls _ (h.bound i hi)).2 ⟨i, hs, hi, rfl⟩

theorem settled (h : Pend c block offs s e) (i : Nat) (hs : i < s) (hi : i < e) : ¬ c offs[i]! := fun hc => by
  obtain ⟨j, h1, h2, h3⟩ := (h.cls _ (h.bound i hi)).1 hc
  have := h.inj h2 hi h3
  omega

theorem exhausted (h : Pend c block offs s e) (hse : e ≤ s) (k : Nat) (hk : k < block) : ¬ c k := fun hc => by
  obtain ⟨i, h1, h2, _⟩ := (h.cls k hk).1 hc
  omega

theorem congr (h : Pend c block offs s e) (hc : ∀ k, k < block → (c' k ↔ c k)) : Pend c' block offs s e :=
  ⟨h.he, h.mono, h.bound, fun k hk => (hc k hk).trans (h.cls k hk)⟩

theorem flip (h : Pend c block offs s e) (hs : s < e) (h1 : ¬ c' offs[s]!)
    (h2 : ∀ k, k < block → k ≠ offs[s]! → (c' k ↔ c k)) : Pend c' block offs (s + 1) e := by
  refine ⟨h.he, h.mono, h.bound, fun k hk => ?_⟩
  by_cases ek : k = offs[s]!
  · subst ek
    refine ⟨fun hc => absurd hc h1, fun ⟨i, hi1, hi2, hi3⟩ => ?_⟩
    have := h.inj hi2 hs hi3
    omega
  · rw [h2 k hk ek, h.cls k hk]
    constructor
    · rintro ⟨i, hi1, hi2, hi3⟩
      refine ⟨i, Nat.lt_of_le_of_ne hi1 fun e2 => ?_, hi2, hi3⟩
      subst e2; exact ek hi3.symm
    · rintro ⟨i, hi1, hi2, hi3⟩
      exact ⟨i, Nat.le_of_succ_le hi1, hi2, hi3⟩
end Pend

/-- both scans are this loop (`pibScanL_eq`, `pibScanR_eq`, by `rfl`): the offsets `i < block` whose element, at position
    `pos i`, is `want`ed -/
def pibScan (pos : Nat → Nat) (want : α → Bool) (block : Nat) : M a0 (Array Nat) := do
  let mut offs : Array Nat := #[]
  for i in [0:block] do
    if want (← rd (pos i)) then offs := offs.push i
  return offs

theorem pibScanL_eq (l block : Nat) (p : α) :
    pibScanL (a0 := a0) lt l block p = pibScan (fun i => l + i) (fun x => !lt x p) block := rfl

theorem pibScanR_eq (r block : Nat) (p : α) :
    pibScanR (a0 := a0) lt r block p = pibScan (fun i => r - 1 - i) (fun x => lt x p) block := rfl

theorem pibScan_spec (pos : Nat → Nat) (want : α → Bool) (block : Nat) (b : Array α) :
   ⦃fun s => ⌜s.val = b⌝⦄ (pibScan (a0 := a0) pos want block)
   ⦃⇓ offs s => ⌜s.val = b ∧ Pend (fun k => want (at' b (pos k)) = true) block offs 0 offs.size⌝⦄ := by
  mvcgen -trivial -leave [pibScan, rd_spec]
  case inv1 =>
    exact ⇓ ⟨xs, offs⟩ s => ⌜s.val = b ∧ Pend (fun k => want (at' b (pos k)) = true) xs.prefix.length offs 0 offs.size⌝
  case vc1 => -- the element at offset `cur` is wanted: pushed
    rename_i s0 hpre pref cur suff hsplit offs s hinv hc offs'
    obtain rfl : cur = pref.length := (range_split hsplit).1.trans (Nat.zero_add _)
    refine SPred.pure_intro ⟨hinv.1, ?_⟩
    rw [List.length_append]
    exact hinv.2.push (hinv.1 ▸ hc)
  case vc2 => -- it is not: skipped
    rename_i s0 hpre pref cur suff hsplit offs s hinv hc
    obtain rfl : cur = pref.length := (range_split hsplit).1.trans (Nat.zero_add _)
    refine SPred.pure_intro ⟨hinv.1, ?_⟩
    rw [List.length_append]
    exact hinv.2.skip (hinv.1 ▸ hc)
  case vc3 => -- on entry
    rename_i s hpre
    exact SPred.pure_intro ⟨hpre, Pend.init⟩
  case vc4 => -- after the loop
    rename_i s0 hpre offs s hinv
    have h2 := hinv.2
    rw [range_length] at h2
    exact SPred.pure_intro ⟨hinv.1, h2⟩

theorem pibScanL_spec (l block : Nat) (p : α) (b : Array α) :
   ⦃fun s => ⌜s.val = b⌝⦄ (pibScanL (a0 := a0) lt l block p)
   ⦃⇓ offs s => ⌜s.val = b ∧ ScanL lt p b l block offs 0⌝⦄ := by
  rw [pibScanL_eq]
  exact triple_conseq (pibScan_spec (fun i => l + i) (fun x => !lt x p) block b) (fun _ h => h)
    fun _ _ h => ⟨h.1, (h.2.congr fun k _ => Iff.of_eq (Bool.not_eq_true' _).symm).scanL⟩

theorem pibScanR_spec (r block : Nat) (p : α) (b : Array α) :
   ⦃fun s => ⌜s.val = b⌝⦄ (pibScanR (a0 := a0) lt r block p)
   ⦃⇓ offs s => ⌜s.val = b ∧ ScanR lt p b r block offs 0⌝⦄ := by
  rw [pibScanR_eq]
  exact triple_conseq (pibScan_spec (fun i => r - 1 - i) (fun x => lt x p) block b) (fun _ h => h)
    fun _ _ h => ⟨h.1, h.2.scanR⟩

theorem ScanL.pending {p : α} {b : Array α} {l bl : Nat} {offs : Array Nat} {m : Nat} (h : ScanL lt p b l bl offs m)
    (i : Nat) (hm : m ≤ i) (hi : i < offs.size) : lt (at' b (l + offs[i]!)) p = false :=
  (h.pend lt).pending i hm hi

theorem ScanR.pending {p : α} {b : Array α} {r br : Nat} {offs : Array Nat} {m : Nat} (h : ScanR lt p b r br offs m)
    (i : Nat) (hm : m ≤ i) (hi : i < offs.size) : lt (at' b (r - 1 - offs[i]!)) p = true :=
  (h.pend lt).pending i hm hi

theorem ScanL.settled {p : α} {b : Array α} {l bl : Nat} {offs : Array Nat} {m : Nat} (h : ScanL lt p b l bl offs m)
    (i : Nat) (hm : i < m) (hi : i < offs.size) : lt (at' b (l + offs[i]!)) p = true :=
  eq_true_of_ne_false ((h.pend lt).settled i hm hi)

theorem ScanR.settled {p : α} {b : Array α} {r br : Nat} {offs : Array Nat} {m : Nat} (h : ScanR lt p b r br offs m)
    (i : Nat) (hm : i < m) (hi : i < offs.size) : lt (at' b (r - 1 - offs[i]!)) p = false :=
  eq_false_of_ne_true ((h.pend lt).settled i hm hi)

/-- a position of the left block and one of the right block are exchanged: the frame, and the new contents of both
    blocks read by offset -/
theorem swap_LR (b : Array α) (l bl r br x y : Nat) (hx : x < bl) (hy : y < br) (hsep : l + bl + br ≤ r) (hsz : r ≤ b.size) :
    Frame l r b (b.swapIfInBounds (l + x) (r - 1 - y)) ∧
    (∀ k, k < bl →
      at' (b.swapIfInBounds (l + x) (r - 1 - y)) (l + k) = if k = x then at' b (r - 1 - y) else at' b (l + k)) ∧
    (∀ k, k < br →
      at' (b.swapIfInBounds (l + x) (r - 1 - y)) (r - 1 - k) = if k = y then at' b (l + x) else at' b (r - 1 - k)) := by
  have hL : ∀ k, k < bl → l + k < l + bl := fun k hk => Nat.add_lt_add_left hk l
  have hR : ∀ k, k < br → l + bl ≤ r - 1 - k ∧ r - 1 - k < r := fun k hk =>
    rpos_range (Nat.lt_of_lt_of_le (Nat.add_lt_add_left hk _) hsep)
  have hbr : br ≤ r := Nat.le_trans (Nat.le_add_left _ _) hsep
  have hne : ∀ k k', k < bl → k' < br → l + k ≠ r - 1 - k' := fun k k' hk hk' =>
    Nat.ne_of_lt (Nat.lt_of_lt_of_le (hL k hk) (hR k' hk').1)
  have hxy : l + x < r - 1 - y := Nat.lt_of_lt_of_le (hL x hx) (hR y hy).1
  have hyr : r - 1 - y < r := (hR y hy).2
  have hys : r - 1 - y < b.size := Nat.lt_of_lt_of_le hyr hsz
  have hsw := fun k => at_swap b (l + x) (r - 1 - y) k (Nat.lt_trans hxy hys) hys
  refine ⟨Frame.swap l r b _ _ (Nat.le_add_right _ _) (Nat.lt_trans hxy hyr)
      (Nat.le_trans (Nat.le_add_right _ _) (hR y hy).1) hyr, fun k hk => ?_, fun k hk => ?_⟩
  · rw [hsw, if_neg (hne k y hk hy)]
    simp only [Nat.add_left_cancel_iff]
  · rw [hsw, if_neg (hne x k hx hk).symm]
    simp only [rpos_inj (Nat.lt_of_lt_of_le hk hbr) (Nat.lt_of_lt_of_le hy hbr)]

section chain
variable {p : α} {b : Array α} {l bl r br : Nat} {oL oR : Array Nat} {mL mR : Nat}

/-- the next pending left position and the next pending right position trade their elements: both are settled -/
theorem chain_pair (hL : ScanL lt p b l bl oL mL) (hR : ScanR lt p b r br oR mR) (hmL : mL < oL.size) (hmR : mR < oR.size)
    (hsep : l + bl + br ≤ r) (hsz : r ≤ b.size) :
    let b' := b.swapIfInBounds (l + oL[mL]!) (r - oR[mR]! - 1)
    Frame l r b b' ∧ ScanL lt p b' l bl oL (mL + 1) ∧ ScanR lt p b' r br oR (mR + 1) := by
  rw [Nat.sub_right_comm]
  intro b'
  obtain ⟨f, sl, sr⟩ := swap_LR b l bl r br _ _ (hL.bound mL hmL) (hR.bound mR hmR) hsep hsz
  refine ⟨f, ((hL.pend lt).flip hmL ?_ fun k hk hne => ?_).scanL, ((hR.pend lt).flip hmR ?_ fun k hk hne => ?_).scanR⟩
  · rw [sl _ (hL.bound mL hmL), if_pos rfl, hR.pending lt mR (Nat.le_refl _) hmR]; exact Bool.noConfusion
  · rw [sl k hk, if_neg hne]
  · rw [sr _ (hR.bound mR hmR), if_pos rfl, hL.pending lt mL (Nat.le_refl _) hmL]; exact Bool.noConfusion
  · rw [sr k hk, if_neg hne]

/-- a settled right position and a pending left position trade their elements: both are not smaller than the pivot, no
    class changes -/
theorem chain_neutral (hL : ScanL lt p b l bl oL mL) (hR : ScanR lt p b r br oR (mR + 1)) (hmL : mL < oL.size)
    (hmR : mR < oR.size) (hsep : l + bl + br ≤ r) (hsz : r ≤ b.size) :
    let b' := b.swapIfInBounds (r - oR[mR]! - 1) (l + oL[mL]!)
    Frame l r b b' ∧ ScanL lt p b' l bl oL mL ∧ ScanR lt p b' r br oR (mR + 1) := by
  rw [Nat.sub_right_comm, swapIfInBounds_comm]
  intro b'
  obtain ⟨f, sl, sr⟩ := swap_LR b l bl r br _ _ (hL.bound mL hmL) (hR.bound mR hmR) hsep hsz
  have cL := hL.pending lt mL (Nat.le_refl _) hmL
  have cR := hR.settled lt mR (Nat.lt_succ_self _) hmR
  refine ⟨f, ((hL.pend lt).congr fun k hk => ?_).scanL, ((hR.pend lt).congr fun k hk => ?_).scanR⟩
  · rw [sl k hk]
    by_cases e : k = oL[mL]!
    · subst e; rw [if_pos rfl, cR, cL]
    · rw [if_neg e]
  · rw [sr k hk]
    by_cases e : k = oR[mR]!
    · subst e; rw [if_pos rfl, cR, cL]
    · rw [if_neg e]

/-- one round of the cyclic permutation, as `pibChain` writes it: the right position settled last receives the next pending
    left element (`chain_neutral`), then that left position and the next pending right position are exchanged (`chain_pair`) -/
theorem chain_round (hL : ScanL lt p b l bl oL mL) (hR : ScanR lt p b r br oR mR) (hmL : mL < oL.size) (h1 : 1 ≤ mR)
    (hmR : mR < oR.size) (hsep : l + bl + br ≤ r) (hsz : r ≤ b.size) :
    let b2 := (b.swapIfInBounds (r - oR[mR - 1]! - 1) (l + oL[mL]!)).swapIfInBounds (l + oL[mL]!) (r - oR[mR]! - 1)
    Frame l r b b2 ∧ ScanL lt p b2 l bl oL (mL + 1) ∧ ScanR lt p b2 r br oR (mR + 1) := by
  obtain ⟨m, rfl⟩ : ∃ m, mR = m + 1 := ⟨mR - 1, by omega⟩
  rw [Nat.add_sub_cancel]
  obtain ⟨f1, jL, jR⟩ := chain_neutral lt hL hR hmL (Nat.lt_of_succ_lt hmR) hsep hsz
  obtain ⟨f2, kL, kR⟩ := chain_pair lt jL jR hmL hmR hsep (by rw [f1.size]; exact hsz)
  exact ⟨f1.trans f2, kL, kR⟩
end chain

theorem pibChain_spec (p : α) (l r bl br : Nat) (oL : Array Nat) (sL : Nat) (oR : Array Nat) (sR count : Nat) (b : Array α) :
   ⦃fun s => ⌜s.val = b ∧ ScanL lt p b l bl oL sL ∧ ScanR lt p b r br oR sR ∧ 1 ≤ count ∧ sL + count ≤ oL.size ∧
      sR + count ≤ oR.size ∧ l + bl + br ≤ r ∧ r ≤ b.size⌝⦄
   (pibChain (a0 := a0) l r oL sL oR sR count)
   ⦃⇓ _ s => ⌜Frame l r b s.val ∧ ScanL lt p s.val l bl oL (sL + count) ∧ ScanR lt p s.val r br oR (sR + count)⌝⦄ := by
  mvcgen -trivial -leave [pibChain, swp_spec]
  case inv1 =>
    exact ⇓ ⟨xs, _⟩ s => ⌜Frame l r b s.val ∧ ScanL lt p s.val l bl oL (sL + (1 + xs.prefix.length)) ∧
      ScanR lt p s.val r br oR (sR + (1 + xs.prefix.length))⌝
  case vc1 => -- round `cur` of the loop
    rename_i s0 hpre pref cur suff hsplit u s hinv
    obtain ⟨rfl, hlen⟩ := range_split hsplit
    obtain ⟨_, hL, hR, hc, hcL, hcR, hsep, hsz⟩ := hpre
    obtain ⟨f, iL, iR⟩ := hinv
    obtain ⟨f', kL, kR⟩ := chain_round lt (mL := sL + (1 + pref.length)) (mR := sR + (1 + pref.length)) iL iR
      (by omega) (by omega) (by omega) hsep (by rw [f.size]; exact hsz)
    refine SPred.pure_intro ?_
    simp only [List.length_append, List.length_singleton]
    exact ⟨f.trans f', kL, kR⟩
  case vc2 => -- the first swap, before the loop
    rename_i s hpre
    obtain ⟨rfl, hL, hR, hc, hcL, hcR, hsep, hsz⟩ := hpre
    exact SPred.pure_intro (chain_pair lt hL hR (by omega) (by omega) hsep hsz)
  case vc3 => -- after the loop: `1 + (count - 1) = count`
    rename_i s0 hpre r' s hinv
    obtain ⟨_, _, _, hc, _⟩ := hpre
    simp only [range_length, Nat.add_sub_cancel' hc] at hinv
    exact SPred.pure_intro hinv
end NucleoVerif.PS
