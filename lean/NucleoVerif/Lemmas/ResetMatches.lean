import NucleoVerif.Props.C06
/-! `remove_in_flight_matches` / `reset_matches`: what the offset-based removal loop computes. -/
namespace NucleoVerif.Nu

/-- the indices below `last` that are not in `R` -/
def keepIdx (last : Nat) (R : List Nat) : List Nat := (List.range last).filter (fun x => decide (x ∉ R))

theorem mem_keepIdx (last : Nat) (R : List Nat) (i : Nat) : i ∈ keepIdx last R ↔ i < last ∧ i ∉ R := by
  simp [keepIdx]

theorem keepIdx_nil (last : Nat) : keepIdx last [] = List.range last :=
  List.filter_eq_self.mpr (fun _ _ => by simp)

theorem keepIdx_lt (last : Nat) (R : List Nat) : ∀ i ∈ keepIdx last R, i < last :=
  fun i hi => ((mem_keepIdx last R i).mp hi).1

theorem keepIdx_nodup (last : Nat) (R : List Nat) : (keepIdx last R).Nodup :=
  List.nodup_range.filter _

theorem keepIdx_congr (last : Nat) (R R' : List Nat) (h : ∀ x, x ∈ R ↔ x ∈ R') : keepIdx last R = keepIdx last R' :=
  List.filter_congr (fun x _ => by simp only [h x])

theorem keepIdx_length (last : Nat) (R : List Nat) (hR : ∀ r ∈ R, r < last) (hRn : R.Nodup) :
    (keepIdx last R).length = last - R.length := by
  have hp : ((List.range last).filter (fun x => decide (x ∈ R))).Perm R := by
    rw [List.perm_ext_iff_of_nodup (List.nodup_range.filter _) hRn]
    intro a
    simp only [List.mem_filter, List.mem_range, decide_eq_true_eq]
    exact ⟨fun h => h.2, fun h => ⟨hR a h, h⟩⟩
  have h := List.length_eq_countP_add_countP (fun x => decide (x ∈ R)) (l := List.range last)
  simp only [List.countP_eq_length_filter, hp.length_eq, List.length_range, decide_eq_true_eq] at h
  unfold keepIdx
  omega

theorem keepIdx_filter_perm (last : Nat) (fl : List Nat) (q : Nat → Bool) (hnd : fl.Nodup) (hfl : ∀ i ∈ fl, i < last) :
    (keepIdx last (fl.filter q)).Perm (keepIdx last fl ++ fl.filter (fun i => !q i)) := by
  have hdisj : ∀ a ∈ keepIdx last fl, ∀ b ∈ fl.filter (fun i => !q i), a ≠ b :=
    fun a ha b hb e => ((mem_keepIdx _ _ a).mp ha).2 (e ▸ (List.mem_filter.mp hb).1)
  rw [List.perm_ext_iff_of_nodup (keepIdx_nodup _ _) (List.nodup_append.mpr ⟨keepIdx_nodup _ _, hnd.filter _, hdisj⟩)]
  intro i
  simp only [mem_keepIdx, List.mem_append, List.mem_filter, Bool.not_eq_true']
  constructor
  · intro ⟨h1, h2⟩
    by_cases hi : i ∈ fl
    · cases hq : q i
      · exact Or.inr ⟨hi, rfl⟩
      · exact absurd ⟨hi, hq⟩ h2
    · exact Or.inl ⟨h1, hi⟩
  · rintro (⟨h1, h2⟩ | ⟨h1, h2⟩)
    · exact ⟨h1, fun h => h2 h.1⟩
    · exact ⟨hfl i h1, fun h => by rw [h.2] at h2; cases h2⟩

/-- removing the entry at position `i − off` removes index `i`: while the indices removed so far are all smaller than
    `i` (the loop visits them in ascending order), the entry for `i` has moved left by exactly their number -/
theorem keepIdx_eraseIdx (last i : Nat) (R : List Nat) (hi : i < last) (hR : ∀ r ∈ R, r < i) (hRn : R.Nodup) :
    (keepIdx last R).eraseIdx (i - R.length) = keepIdx last (i :: R) := by
  obtain ⟨k, hk⟩ : ∃ k, last = i + (k + 1) := ⟨last - i - 1, by omega⟩
  subst hk
  have hiR : i ∉ R := fun h => Nat.lt_irrefl i (hR i h)
  have hA := keepIdx_length i R hR hRn
  unfold keepIdx at hA ⊢
  -- `0..last` is `0..i`, then `i`, then larger indices
  rw [List.range_add, List.range_succ_eq_map]
  simp only [List.filter_append, List.map_cons, List.filter_cons, Nat.add_zero]
  have hL : (List.range i).filter (fun x => decide (x ∉ i :: R)) = (List.range i).filter (fun x => decide (x ∉ R)) := by
    apply List.filter_congr
    intro x hx
    have : x ≠ i := Nat.ne_of_lt (List.mem_range.mp hx)
    simp [this]
  have hT : ∀ (P : Nat → Bool), (∀ x, i < x → P x = true) →
      (List.map (fun x => i + x) (List.map Nat.succ (List.range k))).filter P =
      List.map (fun x => i + x) (List.map Nat.succ (List.range k)) := by
    intro P hP
    apply List.filter_eq_self.mpr
    intro x hx
    simp only [List.mem_map, List.mem_range] at hx
    obtain ⟨y, ⟨z, _, rfl⟩, rfl⟩ := hx
    exact hP _ (by omega)
  rw [hL]
  simp only [hiR, not_false_eq_true, decide_true, if_true, List.mem_cons, true_or, not_true_eq_false, decide_false,
    Bool.false_eq_true, if_false]
  -- an index above `i` is neither `i` nor in `R`
  have hgt : ∀ x, i < x → x ∉ R := fun x hx hm => Nat.lt_asymm hx (hR x hm)
  rw [hT _ (fun x hx => decide_eq_true (hgt x hx)),
      hT _ (fun x hx => decide_eq_true (not_or.mpr ⟨Nat.ne_of_gt hx, hgt x hx⟩)),
      List.eraseIdx_append_of_length_le (Nat.le_of_eq hA), hA, Nat.sub_self]
  rfl

def mk0 (i : Nat) : Match := ⟨0, i⟩

theorem eraseIdx_map {α β : Type} (f : α → β) : ∀ (l : List α) (k : Nat), (l.map f).eraseIdx k = (l.eraseIdx k).map f
  | [], _ => rfl
  | _ :: _, 0 => rfl
  | a :: t, k + 1 => by simp only [List.map_cons, List.eraseIdx_cons_succ, eraseIdx_map f t k]

/-- `remove_in_flight_matches` on the freshly built list, given the indices in ascending order (finding F11: a missing
    sort, example in `Props/C06.lean`): the loop invariant with `keep` the indices removed so far -/
theorem removeInFlightGo_spec (seen : Nat → Option Item) (last : Nat) :
    ∀ (fl : List Nat) (off : Nat) (keep : List Nat),
      fl.Pairwise (· < ·) → (∀ i ∈ fl, i < last) → off = keep.length → keep.Nodup → (∀ r ∈ keep, ∀ i ∈ fl, r < i) →
      removeInFlightGo seen fl off ((keepIdx last keep).map mk0) keep =
        ((keepIdx last ((fl.filter (fun i => (seen i).isNone)).reverse ++ keep)).map mk0,
         keep.reverse ++ fl.filter (fun i => (seen i).isNone)) := by
  intro fl
  induction fl with
  | nil => intro off keep _ _ _ _ _; simp [removeInFlightGo]
  | cons i rest ih =>
    intro off keep hs hlt hoff hnd hsep
    have hs' := List.pairwise_cons.mp hs
    have hlt' : ∀ j ∈ rest, j < last := fun j hj => hlt j (List.mem_cons_of_mem _ hj)
    have hsep' : ∀ r ∈ keep, ∀ j ∈ rest, r < j := fun r hr j hj => hsep r hr j (List.mem_cons_of_mem _ hj)
    have hi : ∀ r ∈ keep, r < i := fun r hr => hsep r hr i List.mem_cons_self
    simp only [removeInFlightGo, List.filter_cons]
    cases (seen i).isNone with
    | false => exact ih off keep hs'.2 hlt' hoff hnd hsep'
    | true =>
      -- position `i - off` of the list holds index `i`; `i` joins the removed indices
      simp only [if_true]
      rw [eraseIdx_map, hoff, keepIdx_eraseIdx last i keep (hlt i List.mem_cons_self) hi hnd,
        ih (keep.length + 1) (i :: keep) hs'.2 hlt' rfl
          (List.nodup_cons.mpr ⟨fun hm => Nat.lt_irrefl i (hi i hm), hnd⟩)
          (fun r hr j hj => (List.mem_cons.mp hr).elim (fun e => e ▸ hs'.1 j hj) (fun hr => hsep' r hr j hj))]
      simp

theorem resetMatches_spec (w : Worker) (seen : Nat → Option Item) (hlt : ∀ i ∈ w.inFlight, i < w.lastSnapshot)
    (hnd : w.inFlight.Nodup) :
    (resetMatches w seen).hits = (keepIdx w.lastSnapshot ((sortNat w.inFlight).filter (fun i => (seen i).isNone))).map mk0 ∧
    (resetMatches w seen).inFlight = (sortNat w.inFlight).filter (fun i => (seen i).isNone) ∧
    (resetMatches w seen).lastSnapshot = w.lastSnapshot ∧ (resetMatches w seen).pattern = w.pattern := by
  obtain ⟨hsorted, hperm⟩ := C06_in_flight_sorted w.inFlight
  -- sorted and duplicate-free, so strictly ascending
  have hstrict : (sortNat w.inFlight).Pairwise (· < ·) :=
    (hsorted.and (hperm.nodup_iff.mpr hnd)).imp (fun ⟨h1, h2⟩ => Nat.lt_of_le_of_ne h1 h2)
  have hall : (List.range w.lastSnapshot).map (fun i => Match.mk 0 i) = (keepIdx w.lastSnapshot []).map mk0 := by
    rw [keepIdx_nil]; rfl
  have spec := removeInFlightGo_spec seen w.lastSnapshot (sortNat w.inFlight) 0 [] hstrict
    (fun i hi => hlt i (hperm.subset hi)) rfl List.nodup_nil (fun r hr => absurd hr List.not_mem_nil)
  unfold resetMatches
  simp only
  rw [hall, spec]
  simp only [List.append_nil, List.reverse_nil, List.nil_append]
  exact ⟨congrArg _ (keepIdx_congr _ _ _ (fun x => List.mem_reverse)), trivial, trivial, trivial⟩

end NucleoVerif.Nu
