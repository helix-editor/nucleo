import NucleoVerif.Lemmas.OptRow
/-! One call of `score_row` (`scoreRow_spec`): the slicing of the score row and of the back-pointer cells around the two
loops. -/
namespace NucleoVerif.OptImpl
open NucleoVerif NucleoVerif.Gen NucleoVerif.Gen.Opt NucleoVerif.DP

theorem phase1_length (first : Bool) (nc : Nat) (cols : List Col) (cur : List ScoreCell) (cells : List MatrixCell) (k : Carry) :
    (phase1 first nc cols cur cells k).1.length = cells.length := by
  induction cols generalizing cur cells k with
  | nil => rfl
  | cons c cs ih =>
    cases cur with
    | nil => rfl
    | cons sc cur =>
      cases cells with
      | nil => rfl
      | cons mc cells => exact congrArg (· + 1) (ih cur cells _)

theorem phase2_length (first : Bool) (nc nnc : Nat) (cols : List Col) (cur : List ScoreCell) (cells : List MatrixCell) (k : Carry) :
    (phase2 first nc nnc cols cur cells k).1.length = cur.length ∧
    (phase2 first nc nnc cols cur cells k).2.length = cells.length := by
  induction cur generalizing cols cells k with
  | nil =>
    match cols with
    | [] => exact ⟨rfl, rfl⟩
    | [_] => exact ⟨rfl, rfl⟩
    | _ :: _ :: _ => exact ⟨rfl, rfl⟩
  | cons sc cur ih =>
    match cols, cells with
    | [], _ => exact ⟨rfl, rfl⟩
    | [_], _ => exact ⟨rfl, rfl⟩
    | _ :: _ :: _, [] => exact ⟨rfl, rfl⟩
    | _ :: c1 :: cs, _ :: cells =>
      exact ⟨congrArg (· + 1) (ih (c1 :: cs) cells _).1, congrArg (· + 1) (ih (c1 :: cs) cells _).2⟩

theorem scoreRow_length (first : Bool) (cur : List ScoreCell) (cells : List MatrixCell) (cols : List Col) (ro nro i nc nnc pb : Nat) :
    (scoreRow first cur cells cols ro nro i nc nnc pb).1.length = cur.length ∧
    (scoreRow first cur cells cols ro nro i nc nnc pb).2.length = cells.length := by
  unfold scoreRow
  constructor
  · rw [List.length_append, (phase2_length ..).1, ← List.length_append, List.take_append_drop]
  · rw [List.length_append, (phase2_length ..).2, ← List.length_append, List.take_append_drop, phase1_length]

theorem scoreRow_eq (first : Bool) (cur : List ScoreCell) (cells : List MatrixCell) (cols : List Col) (i a d nc nnc pb : Nat) :
    scoreRow first cur cells cols (i + a) (i + a + d + 1) i nc nnc pb =
      let A := phase1 first nc ((cols.drop (i + a)).take d) ((cur.drop a).take d) cells ⟨0, 0, pb⟩
      let B := phase2 first nc nnc ((cols.drop (i + a)).drop d) ((cur.drop a).drop d) (A.1.drop d) A.2
      (cur.take (a + d) ++ B.1, A.1.take d ++ B.2) := by
  have e1 : i + a + d + 1 - 1 = i + a + d := rfl
  have e2 : i + a - i = a := Nat.add_sub_cancel_left ..
  have e3 : i + a + d - i = a + d := by rw [Nat.add_assoc]; exact Nat.add_sub_cancel_left ..
  have e4 : i + a + d - (i + a) = d := Nat.add_sub_cancel_left ..
  have e5 : a + d - a = d := Nat.add_sub_cancel_left ..
  simp only [scoreRow, e1, e2, e3, e4, e5, List.drop_drop]

/-- one call of `score_row` on a score row that holds (or, in the first row, computes) the recurrence's row `ms` from
    column `i + a` on: afterwards it holds the next row from its first cell (column `i + a + d + 1`) on, and the current
    row's back-pointer bits are recorded -/
theorem scoreRow_spec (first : Bool) (cols : List Col) (cur : List ScoreCell) (cells : List MatrixCell) (ms : List (Option Cell))
    (i a d nc nnc pb : Nat)
    (hd : a + d < cur.length) (hcols : cur.length + i < cols.length)
    (hcells : cur.length ≤ a + cells.length)  -- the slice has room for the row's `cur.length - a` cells
    (hlive : ∃ t c, t ≤ d ∧ ms[t]? = some (some c)) (hb : ∀ c ∈ cols, c.bonus < 256)
    (hrel : All2 CellRel (eff first nc (cols.drop (i + a)) pb (cur.drop a)) (ms.take (cur.length - a))) :
    let r := scoreRow first cur cells cols (i + a) (i + a + d + 1) i nc nnc pb
    let steps := nsteps nnc ms (cols.drop (i + a + 1)) none none
    All2 StepRel (r.1.drop (a + d)) ((steps.drop d).take (cur.length - (a + d))) ∧
    ∀ (t : Nat) (sc : ScoreCell) (st : NStep),
      (eff first nc (cols.drop (i + a)) pb (cur.drop a))[t]? = some sc → steps[t]? = some st →
      ∃ f, r.2[t]? = some f ∧ FlagRel f (sc, st) := by
  have hlt : i + a < cols.length := by omega
  have hA : cols.drop (i + a) = cols[i + a] :: cols.drop (i + a + 1) := List.drop_eq_getElem_cons hlt
  have hL : (cur.drop a).length + a = cur.length := by rw [List.length_drop]; exact Nat.sub_add_cancel (by omega)
  have core := phases_spec first nc nnc d (cur.drop a) ms cols[i + a] (cols.drop (i + a + 1)) cells ⟨0, 0, pb⟩ none none
    (by omega) (by rw [← hA, List.length_drop]; exact hrel)
    (by rw [List.length_drop (l := cols)]; exact Nat.le_sub_of_add_le (by omega))
    (by omega) ⟨rfl, rfl, fun _ h => nomatch h⟩ (Or.inr (Or.inr hlive)) (fun c hc => hb c (List.mem_of_mem_drop hc))
  rw [← hA, List.length_drop, Nat.sub_sub] at core
  rw [scoreRow_eq]
  refine ⟨?_, ?_⟩
  · rw [List.drop_left' (List.length_take_of_le (Nat.le_of_lt hd))]
    exact core.1
  · intro t sc st hsc hst
    obtain ⟨f, hf, hR⟩ := core.2.get_left ((List.getElem?_zip_eq_some (z := (sc, st))).mpr ⟨hsc, hst⟩)
    have ht : t < cur.length - a := by
      rw [← List.length_drop, ← eff_length first nc (cols.drop (i + a)) pb]
      exact (List.getElem?_eq_some_iff.mp hsc).1
    exact ⟨f, by rwa [List.getElem?_take_of_lt ht] at hf, hR⟩

end NucleoVerif.OptImpl
