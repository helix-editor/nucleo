import NucleoVerif.Model.Matcher
import NucleoVerif.Spec.Matcher
/-! Invariants of the path-carrying two-matrix recurrence (`Model/Matcher.lean`: `firstRow`, `nextRowGo`,
`allRows`, `bestCell`) against the specification's scoring state machine (`Spec.sInit/sMatch/sSkip`). -/
namespace NucleoVerif
open Gen

/-- `nextRowGo` with the first column already dropped: cell for column `cj1` from `M(i, j)` (`mj`) and the running `P` -/
def zipGo (nc : Nat) : List (Option Cell) → List Col → Option Cell → Option PCell → List (Option Cell)
  | mj :: ms, cj1 :: cs, prevM, p =>
    (if cj1.ch = nc then nextM (pScore prevM p) cj1.bonus mj cj1.idx else none) :: zipGo nc ms cs mj (pScore prevM p)
  | _, _, _, _ => []

theorem nextRowGo_eq_zip (nc : Nat) : ∀ (ms : List (Option Cell)) (c0 : Col) (cs : List Col) (prevM : Option Cell) (p : Option PCell),
    nextRowGo nc ms (c0 :: cs) prevM p = zipGo nc ms cs prevM p := by
  intro ms
  induction ms with
  | nil => intro c0 cs prevM p; cases cs <;> simp [nextRowGo, zipGo]
  | cons mj ms ih =>
    intro c0 cs prevM p
    cases cs with
    | nil => simp [nextRowGo, zipGo]
    | cons cj1 cs' =>
      simp only [nextRowGo, zipGo]
      rw [ih cj1 cs' mj (pScore prevM p)]

theorem nextRow_cons (nc : Nat) (row : List (Option Cell)) (c0 : Col) (cs : List Col) :
    nextRow nc row (c0 :: cs) = none :: zipGo nc row cs none none := by
  simp only [nextRow, nextRowGo_eq_zip]

theorem zipGo_length (nc : Nat) : ∀ (ms : List (Option Cell)) (cs : List Col) (prevM : Option Cell) (p : Option PCell),
    (zipGo nc ms cs prevM p).length = min ms.length cs.length := by
  intro ms
  induction ms with
  | nil => intro cs _ _; simp [zipGo]
  | cons m ms ih =>
    intro cs prevM p
    cases cs with
    | nil => simp [zipGo]
    | cons c cs => rw [zipGo, List.length_cons, ih, List.length_cons, List.length_cons, Nat.succ_min_succ]

namespace DP
open Spec

theorem pScore_eq_some {prevM : Option Cell} {p : Option PCell} {q : PCell} (h : pScore prevM p = some q) :
    (∃ m, prevM = some m ∧ q = ⟨m.score - PENALTY_GAP_START, m.path⟩) ∨
    (∃ r, p = some r ∧ q = ⟨r.score - PENALTY_GAP_EXTENSION, r.path⟩) := by
  unfold pScore at h
  split at h
  · cases h
  · cases h; exact Or.inl ⟨_, rfl, rfl⟩
  · cases h; exact Or.inr ⟨_, rfl, rfl⟩
  · split at h <;> cases h
    · exact Or.inl ⟨_, rfl, rfl⟩
    · exact Or.inr ⟨_, rfl, rfl⟩

theorem nextM_eq_some {p : Option PCell} {b : Nat} {m : Option Cell} {col : Nat} {c : Cell} (h : nextM p b m col = some c) :
    (∃ c0 cb, m = some c0 ∧
      cb = (if b ≥ BONUS_BOUNDARY ∧ b > max c0.consec BONUS_CONSECUTIVE then b else max c0.consec BONUS_CONSECUTIVE) ∧
      c = ⟨c0.score + max cb b + SCORE_MATCH, cb, c0.path ++ [col]⟩) ∨
    (∃ q, p = some q ∧ c = ⟨q.score + b + SCORE_MATCH, b, q.path ++ [col]⟩) := by
  cases m with
  | none =>
    cases p with
    | none => cases h
    | some q => cases h; exact Or.inr ⟨q, rfl, rfl⟩
  | some c0 =>
    cases p with
    | none => cases h; exact Or.inl ⟨c0, _, rfl, rfl, rfl⟩
    | some q =>
      simp only [nextM] at h
      generalize hcb :
        (if b ≥ BONUS_BOUNDARY ∧ b > max c0.consec BONUS_CONSECUTIVE then b else max c0.consec BONUS_CONSECUTIVE) = cb at h
      split at h <;> cases h
      · exact Or.inl ⟨c0, cb, rfl, hcb.symm, rfl⟩
      · exact Or.inr ⟨q, rfl, rfl⟩

theorem firstRow_getElem? (n0 : Nat) : ∀ (cols : List Col) (pb k : Nat),
    (firstRow n0 cols pb)[k]? = cols[k]?.map fun c =>
      if c.ch = n0 then
        some ⟨c.bonus * BONUS_FIRST_CHAR_MULTIPLIER + SCORE_MATCH + (pb - k * PENALTY_GAP_EXTENSION) / PREFIX_BONUS_SCALE, c.bonus, [c.idx]⟩
      else none := by
  intro cols
  induction cols with
  | nil => intro _ _; rfl
  | cons c cs ih =>
    intro pb k
    cases k with
    | zero => simp only [firstRow, List.getElem?_cons_zero, Option.map_some, Nat.zero_mul, Nat.sub_zero]
    | succ k => simp only [firstRow, List.getElem?_cons_succ, ih, Nat.sub_sub, Nat.succ_mul, Nat.add_comm]

theorem firstRow_length (n0 : Nat) : ∀ (cols : List Col) (pb : Nat), (firstRow n0 cols pb).length = cols.length := by
  intro cols
  induction cols with
  | nil => intro _; rfl
  | cons c cs ih => intro pb; simp [firstRow, ih]

/-- Rule induction over one row step.  `A k` is what is known of the old row's M-cell at position `k` and `B k` of the
    running P-cell that meets it there; `A' k` then holds of the new cell computed from the two for column `cs[k]`. -/
theorem zipGo_rule (nc : Nat) : ∀ (ms : List (Option Cell)) (cs : List Col) (A A' : Nat → Cell → Prop)
    (B : Nat → PCell → Prop) (prevM : Option Cell) (p : Option PCell),
    (∀ (k : Nat) (c : Cell), ms[k]? = some (some c) → A k c) → (∀ q, pScore prevM p = some q → B 0 q) →
    (∀ k m p, (∀ c, m = some c → A k c) → (∀ q, p = some q → B k q) → ∀ q, pScore m p = some q → B (k + 1) q) →
    (∀ k col, cs[k]? = some col → col.ch = nc → ∀ m p, (∀ c, m = some c → A k c) → (∀ q, p = some q → B k q) →
      ∀ c, nextM p col.bonus m col.idx = some c → A' k c) →
    ∀ (k : Nat) (c : Cell), (zipGo nc ms cs prevM p)[k]? = some (some c) → A' k c := by
  intro ms
  induction ms with
  | nil => intro cs _ _ _ _ _ _ _ _ _ k c h; simp [zipGo] at h
  | cons mj ms ih =>
    intro cs A A' B prevM p hrow hp hB hA k c h
    cases cs with
    | nil => simp [zipGo] at h
    | cons cj1 cs =>
      have hmj : ∀ c, mj = some c → A 0 c := fun c hc => hrow 0 c (by rw [hc]; rfl)
      cases k with
      | zero =>
        simp only [zipGo, List.getElem?_cons_zero, Option.some.injEq] at h
        split at h
        · exact hA 0 cj1 rfl ‹_› mj _ hmj hp c h
        · cases h
      | succ k =>
        simp only [zipGo, List.getElem?_cons_succ] at h
        exact ih cs (fun k => A (k + 1)) (fun k => A' (k + 1)) (fun k => B (k + 1)) mj (pScore prevM p)
          (fun k c hk => hrow (k + 1) c hk) (hB 0 mj _ hmj hp) (fun k => hB (k + 1)) (fun k => hA (k + 1)) k c h

theorem nextRow_rule (nc : Nat) (row : List (Option Cell)) (cols : List Col) (A A' : Nat → Cell → Prop)
    (B : Nat → PCell → Prop) (hrow : ∀ (k : Nat) (c : Cell), row[k]? = some (some c) → A k c)
    (hB : ∀ k m p, (∀ c, m = some c → A k c) → (∀ q, p = some q → B k q) → ∀ q, pScore m p = some q → B (k + 1) q)
    (hA : ∀ k col, cols[k + 1]? = some col → col.ch = nc → ∀ m p, (∀ c, m = some c → A k c) → (∀ q, p = some q → B k q) →
      ∀ c, nextM p col.bonus m col.idx = some c → A' (k + 1) c) :
    ∀ (k : Nat) (c : Cell), (nextRow nc row cols)[k]? = some (some c) → A' k c := by
  intro k c h
  cases cols with
  | nil => simp [nextRow] at h
  | cons c0 cs =>
    rw [nextRow_cons] at h
    cases k with
    | zero => simp at h
    | succ k =>
      exact zipGo_rule nc row cs A (fun k => A' (k + 1)) B none none hrow (fun q hq => by cases hq) hB
        (fun k col hk => hA k col hk) k c h

/-- Every cell's alignment is built by appending matched columns, so a relation `Q` between needle prefix and
    alignment that such steps keep holds of every cell. -/
theorem allRows_paths (cols : List Col) (Q : List Nat → List Nat → Prop)
    (hQ : ∀ col ∈ cols, ∀ np l, Q np l → Q (np ++ [col.ch]) (l ++ [col.idx])) :
    ∀ (ns np : List Nat) (row : List (Option Cell)), (∀ (k : Nat) (c : Cell), row[k]? = some (some c) → Q np c.path) →
      ∀ (k : Nat) (c : Cell), (allRows cols ns row)[k]? = some (some c) → Q (np ++ ns) c.path := by
  intro ns
  induction ns with
  | nil => intro np row h; rw [List.append_nil]; exact h
  | cons nc ns ih =>
    intro np row h
    rw [show np ++ nc :: ns = (np ++ [nc]) ++ ns by simp]
    refine ih _ _ (nextRow_rule nc row cols (fun _ c => Q np c.path) (fun _ c => Q (np ++ [nc]) c.path)
      (fun _ q => Q np q.path) h ?_ ?_)
    · intro _ m p hM hP q hq
      rcases pScore_eq_some hq with ⟨m, rfl, rfl⟩ | ⟨r, rfl, rfl⟩
      · exact hM m rfl
      · exact hP r rfl
    · intro k col hk hch m p hM hP c hc
      have hstep := hQ col (List.mem_of_getElem? hk) np
      rw [hch] at hstep
      rcases nextM_eq_some hc with ⟨c0, _, rfl, _, rfl⟩ | ⟨q, rfl, rfl⟩
      · exact hstep _ (hM c0 rfl)
      · exact hstep _ (hP q rfl)

theorem firstRow_paths (cols : List Col) (Q : List Nat → List Nat → Prop) (hQ : ∀ col ∈ cols, Q [col.ch] [col.idx])
    (n0 pb : Nat) : ∀ (k : Nat) (c : Cell), (firstRow n0 cols pb)[k]? = some (some c) → Q [n0] c.path := by
  intro k c h
  rw [firstRow_getElem?] at h
  cases hk : cols[k]? with
  | none => rw [hk] at h; cases h
  | some col =>
    rw [hk] at h
    simp only [Option.map_some, Option.some.injEq] at h
    split at h
    · cases h; rename_i hch; rw [← hch]; exact hQ col (List.mem_of_getElem? hk)
    · cases h

theorem bestCell_mem : ∀ (row : List (Option Cell)) (best : Option Cell) (c : Cell),
    bestCell row best = some c → best = some c ∨ some c ∈ row
  | [], _, _, h => Or.inl h
  | none :: ms, best, c, h => (bestCell_mem ms best c h).imp_right (List.mem_cons_of_mem _)
  | some c0 :: ms, none, c, h =>
    (bestCell_mem ms (some c0) c h).elim (fun e => Or.inr (e ▸ List.mem_cons_self)) (fun e => Or.inr (List.mem_cons_of_mem _ e))
  | some c0 :: ms, some b, c, h => by
    rw [bestCell] at h
    split at h
    · exact (bestCell_mem ms (some c0) c h).elim (fun e => Or.inr (e ▸ List.mem_cons_self))
        (fun e => Or.inr (List.mem_cons_of_mem _ e))
    · exact (bestCell_mem ms (some b) c h).imp_right (List.mem_cons_of_mem _)

theorem optimalDP_eq_some {cfg : Cfg} {ext : Ext} {hrep : Rep} {h : List Nat} {n0 : Nat} {ns : List Nat} {start end_ sc : Nat}
    {path : List Nat} (hres : optimalDP cfg ext hrep h (n0 :: ns) start end_ = some (sc, path)) :
    ∃ (k : Nat) (c : Cell), (allRows (windowCols cfg ext hrep h start end_) ns
        (firstRow n0 (windowCols cfg ext hrep h start end_) (prefixStart cfg start)))[k]? = some (some c) ∧
      sc = c.score ∧ path = c.path := by
  unfold optimalDP at hres
  simp only at hres
  split at hres
  · cases hres
  · cases hb : bestCell (allRows (windowCols cfg ext hrep h start end_) ns
        (firstRow n0 (windowCols cfg ext hrep h start end_) (prefixStart cfg start))) none with
    | none => rw [hb] at hres; cases hres
    | some c =>
      rw [hb] at hres
      cases hres
      rcases bestCell_mem _ _ _ hb with e | hmem
      · cases e
      · obtain ⟨k, hk⟩ := List.getElem?_of_mem hmem
        exact ⟨k, c, hk, rfl, rfl⟩

theorem pairwise_snoc {l : List Nat} {j : Nat} (hl : l.Pairwise (· < ·)) (hj : ∀ x ∈ l, x < j) : (l ++ [j]).Pairwise (· < ·) :=
  List.pairwise_append.mpr ⟨hl, List.pairwise_singleton _ _, fun a ha _ hb => List.mem_singleton.mp hb ▸ hj a ha⟩

theorem allRows_sorted (cols : List Col) (j0 : Nat) (hcols : ∀ (k : Nat) (c : Col), cols[k]? = some c → c.idx = j0 + k) :
    ∀ (ns : List Nat) (row : List (Option Cell)),
      (∀ (k : Nat) (c : Cell), row[k]? = some (some c) → c.path.Pairwise (· < ·) ∧ ∀ x ∈ c.path, x ≤ j0 + k) →
      ∀ (k : Nat) (c : Cell), (allRows cols ns row)[k]? = some (some c) → c.path.Pairwise (· < ·) ∧ ∀ x ∈ c.path, x ≤ j0 + k := by
  intro ns
  induction ns with
  | nil => intro row h; exact h
  | cons nc ns ih =>
    intro row h
    refine ih _ (nextRow_rule nc row cols _ (fun k c => c.path.Pairwise (· < ·) ∧ ∀ x ∈ c.path, x ≤ j0 + k)
      (fun k q => q.path.Pairwise (· < ·) ∧ ∀ x ∈ q.path, x < j0 + k) h ?_ ?_)
    · intro k m p hM hP q hq
      rcases pScore_eq_some hq with ⟨m, rfl, rfl⟩ | ⟨r, rfl, rfl⟩
      · exact ⟨(hM m rfl).1, fun x hx => Nat.lt_succ_of_le ((hM m rfl).2 x hx)⟩
      · exact ⟨(hP r rfl).1, fun x hx => Nat.lt_succ_of_lt ((hP r rfl).2 x hx)⟩
    · intro k col hk _ m p hM hP c hc
      have snoc : ∀ l : List Nat, l.Pairwise (· < ·) → (∀ x ∈ l, x < j0 + (k + 1)) →
          (l ++ [col.idx]).Pairwise (· < ·) ∧ ∀ x ∈ l ++ [col.idx], x ≤ j0 + (k + 1) := fun l hl hb => by
        rw [hcols (k + 1) col hk]
        exact ⟨pairwise_snoc hl hb, fun x hx => (List.mem_append.mp hx).elim
          (fun hx => Nat.le_of_lt (hb x hx)) (fun hx => Nat.le_of_eq (List.mem_singleton.mp hx))⟩
      rcases nextM_eq_some hc with ⟨c0, _, rfl, _, rfl⟩ | ⟨q, rfl, rfl⟩
      · exact snoc _ (hM c0 rfl).1 fun x hx => Nat.lt_succ_of_le ((hM c0 rfl).2 x hx)
      · exact snoc _ (hP q rfl).1 fun x hx => Nat.lt_succ_of_lt ((hP q rfl).2 x hx)

theorem rank_gt_delimiter (cls : CharClass) :
    cls.rank > CharClass.delimiter.rank ↔ (cls = .lower ∨ cls = .upper ∨ cls = .letter ∨ cls = .number) := by
  cases cls <;> decide

/-- the code's `bonus_for` if-chain is the documented bonus table -/
theorem bonusFor_eq_spec (cfg : Cfg) (prev cls : CharClass) :
    bonusFor cfg prev cls = specBonus cfg.white cfg.delim prev cls := by
  simp only [bonusFor, specBonus, rank_gt_delimiter, BONUS_BOUNDARY, BONUS_CAMEL123, BONUS_NON_WORD]

theorem ite_le {c : Prop} [Decidable c] {a b n : Nat} (ha : a ≤ n) (hb : b ≤ n) : (if c then a else b) ≤ n := by
  split
  · exact ha
  · exact hb

/-- the entries of the documented table, in the order of its if-chain, are `white`, `delim`, 8, 5, `white`, 8, 0 -/
theorem specBonus_le_of {white delim n : Nat} (hw : white ≤ n) (hd : delim ≤ n) (h8 : 8 ≤ n) (prev cls : CharClass) :
    specBonus white delim prev cls ≤ n :=
  ite_le hw (ite_le hd (ite_le h8 (ite_le (Nat.le_trans (by decide) h8) (ite_le hw (ite_le h8 (Nat.zero_le _))))))

theorem sMatch_flags (white delim : Nat) (s : SSt) (cls : CharClass) :
    (sMatch white delim s cls).inGap = false ∧ (sMatch white delim s cls).inRun = true ∧ (sMatch white delim s cls).prev = cls := by
  unfold sMatch; split <;> exact ⟨rfl, rfl, rfl⟩

section
variable (white delim : Nat) (initial : CharClass) (cls : Nat → CharClass)

/-- class of the character in front of absolute column `j` -/
def pcls (j : Nat) : CharClass := if j = 0 then initial else cls (j - 1)

def bonusAt (j : Nat) : Nat := specBonus white delim (pcls initial cls j) (cls j)

/-- the specification's state after column `col` when the scheme is applied to alignment `path`
    (absolute columns, the first one being `first`) -/
def specAt (path : List Nat) (first : Nat) : Nat → SSt
  | 0 => sInit white delim (pcls initial cls first) (cls first)
  | col + 1 =>
    if col + 1 ≤ first then sInit white delim (pcls initial cls first) (cls first)
    else
      let s := specAt path first col
      if path.contains (col + 1) then sMatch white delim s (cls (col + 1)) else sSkip s (cls (col + 1))

theorem specAt_succ_of_le (path : List Nat) (first col : Nat) (h : first ≤ col) :
    specAt white delim initial cls path first (col + 1) =
      (if path.contains (col + 1) then sMatch white delim (specAt white delim initial cls path first col) (cls (col + 1))
       else sSkip (specAt white delim initial cls path first col) (cls (col + 1))) := by
  conv => lhs; unfold specAt
  exact if_neg (by omega)

theorem specAt_le_first (path : List Nat) (first col : Nat) (h : col ≤ first) :
    specAt white delim initial cls path first col = sInit white delim (pcls initial cls first) (cls first) := by
  cases col with
  | zero => rfl
  | succ k => unfold specAt; exact if_pos h

theorem specAt_append (path : List Nat) (first c : Nat) :
    ∀ k, k < c → specAt white delim initial cls (path ++ [c]) first k = specAt white delim initial cls path first k := by
  intro k
  induction k with
  | zero => intro _; rfl
  | succ k ih =>
    intro hk
    unfold specAt
    have hc : (path ++ [c]).contains (k + 1) = path.contains (k + 1) := by
      simp only [List.contains_eq_mem, List.mem_append, List.mem_singleton, show ¬ (k + 1 = c) by omega, or_false]
    rw [ih (by omega), hc]

theorem specAt_snoc (path : List Nat) (first j : Nat) (h : first ≤ j) :
    specAt white delim initial cls (path ++ [j + 1]) first (j + 1) =
      sMatch white delim (specAt white delim initial cls path first j) (cls (j + 1)) := by
  rw [specAt_succ_of_le white delim initial cls _ _ _ h, specAt_append white delim initial cls _ _ _ _ (Nat.lt_succ_self j),
    if_pos (by simp only [List.contains_eq_mem, List.mem_append, List.mem_singleton, or_true, decide_true])]

theorem specAt_skip (path : List Nat) (first j : Nat) (h : first ≤ j) (hj : j + 1 ∉ path) :
    specAt white delim initial cls path first (j + 1) =
      sSkip (specAt white delim initial cls path first j) (cls (j + 1)) := by
  rw [specAt_succ_of_le white delim initial cls _ _ _ h, if_neg (by simpa using hj)]

/-- first element of a path (0 for the empty path, which never occurs in a cell) -/
def firstOf (path : List Nat) : Nat := path.headD 0

/-- the state relation between a DP M-cell at absolute column `j` and the specification.  The model stores the bonus of
    the current run as it is and raises it to `BONUS_CONSECUTIVE` when it reads it, the specification raises it when it
    stores it: the two agree only up to `max · 4` (`bonus_arith` carries this through a step). -/
def CellInv (c : Cell) (j : Nat) : Prop :=
  firstOf c.path ≤ j ∧ j ∈ c.path ∧ c.path ≠ [] ∧ (∀ k ∈ c.path, firstOf c.path ≤ k ∧ k ≤ j) ∧
  (specAt white delim initial cls c.path (firstOf c.path) j).score = c.score ∧
  (specAt white delim initial cls c.path (firstOf c.path) j).inGap = false ∧
  (specAt white delim initial cls c.path (firstOf c.path) j).inRun = true ∧
  (specAt white delim initial cls c.path (firstOf c.path) j).prev = cls j ∧
  max (specAt white delim initial cls c.path (firstOf c.path) j).runBonus 4 = max c.consec 4 ∧
  c.path.getLast? = some j ∧ c.path.Pairwise (· < ·)

/-- P-cell valid *at* column `j`: the alignment ended before `j`, columns up to `j` skipped -/
def PInv (q : PCell) (j : Nat) : Prop :=
  firstOf q.path < j ∧ j ∉ q.path ∧ q.path ≠ [] ∧ (∀ k ∈ q.path, firstOf q.path ≤ k ∧ k < j) ∧
  (specAt white delim initial cls q.path (firstOf q.path) j).score = q.score ∧
  (specAt white delim initial cls q.path (firstOf q.path) j).inGap = true ∧
  (specAt white delim initial cls q.path (firstOf q.path) j).inRun = false ∧
  (specAt white delim initial cls q.path (firstOf q.path) j).prev = cls j ∧
  q.path.Pairwise (· < ·)

theorem firstOf_append (path : List Nat) (c : Nat) (h : path ≠ []) : firstOf (path ++ [c]) = firstOf path := by
  cases path with
  | nil => exact absurd rfl h
  | cons a t => rfl

theorem firstOf_mem (path : List Nat) (h : path ≠ []) : firstOf path ∈ path := by
  cases path with
  | nil => exact absurd rfl h
  | cons a t => exact List.mem_cons_self

theorem cellInv_snoc {path : List Nat} {j sc cb : Nat} (hne : path ≠ []) (hb : ∀ k ∈ path, firstOf path ≤ k ∧ k ≤ j)
    (hpw : path.Pairwise (· < ·))
    (hsc : (sMatch white delim (specAt white delim initial cls path (firstOf path) j) (cls (j + 1))).score = sc)
    (hcb : max (sMatch white delim (specAt white delim initial cls path (firstOf path) j) (cls (j + 1))).runBonus 4 = max cb 4) :
    CellInv white delim initial cls ⟨sc, cb, path ++ [j + 1]⟩ (j + 1) := by
  have hfj : firstOf path ≤ j := (hb _ (firstOf_mem path hne)).2
  have hs := specAt_snoc white delim initial cls path (firstOf path) j hfj
  unfold CellInv
  simp only [firstOf_append path (j + 1) hne, hs]
  obtain ⟨f1, f2, f3⟩ := sMatch_flags white delim (specAt white delim initial cls path (firstOf path) j) (cls (j + 1))
  refine ⟨Nat.le_succ_of_le hfj, by simp, by simp, ?_, hsc, f1, f2, f3, hcb, by simp, ?_⟩
  · intro k hk
    rcases List.mem_append.mp hk with hk | hk
    · exact ⟨(hb k hk).1, Nat.le_succ_of_le (hb k hk).2⟩
    · rw [List.mem_singleton.mp hk]; exact ⟨Nat.le_succ_of_le hfj, Nat.le_refl _⟩
  · exact pairwise_snoc hpw fun a ha => Nat.lt_succ_of_le (hb a ha).2

theorem pInv_skip {path : List Nat} {j sc : Nat} (hne : path ≠ []) (hb : ∀ k ∈ path, firstOf path ≤ k ∧ k ≤ j)
    (hpw : path.Pairwise (· < ·))
    (hsc : (specAt white delim initial cls path (firstOf path) j).score -
      (if (specAt white delim initial cls path (firstOf path) j).inGap then 1 else 3) = sc) :
    PInv white delim initial cls ⟨sc, path⟩ (j + 1) := by
  have hfj : firstOf path ≤ j := (hb _ (firstOf_mem path hne)).2
  have hj : j + 1 ∉ path := fun hm => Nat.not_succ_le_self j (hb _ hm).2
  have hs := specAt_skip white delim initial cls path (firstOf path) j hfj hj
  unfold PInv
  simp only [hs]
  exact ⟨Nat.lt_succ_of_le hfj, hj, hne, fun k hk => ⟨(hb k hk).1, Nat.lt_succ_of_le (hb k hk).2⟩,
    hsc, rfl, rfl, rfl, hpw⟩

theorem bonus_arith (b fb cons : Nat) (h : max fb 4 = max cons 4) :
    max (max b (if b ≥ 8 ∧ b > fb then b else fb)) 4
      = max (if b ≥ 8 ∧ b > max cons 4 then b else max cons 4) b ∧
    max (if b ≥ 8 ∧ b > fb then b else fb) 4
      = max (if b ≥ 8 ∧ b > max cons 4 then b else max cons 4) 4 := by
  -- a boundary bonus (≥ 8 > 4) exceeds `fb` exactly when it exceeds `max fb 4 = max cons 4`
  have hc : (b ≥ 8 ∧ b > fb) ↔ (b ≥ 8 ∧ b > max cons 4) := by
    rw [← h]
    exact and_congr_right fun hb =>
      ⟨fun h' => Nat.max_lt.mpr ⟨h', Nat.lt_of_lt_of_le (by decide) hb⟩, fun h' => (Nat.max_lt.mp h').1⟩
  by_cases hb : b ≥ 8 ∧ b > fb
  · rw [if_pos hb, if_pos (hc.mp hb), Nat.max_self]
    exact ⟨Nat.max_eq_left (Nat.le_trans (by decide) hb.1), rfl⟩
  · rw [if_neg hb, if_neg (mt hc.mpr hb), Nat.max_assoc, h, Nat.max_comm b]
    exact ⟨rfl, (Nat.max_eq_left (Nat.le_max_right cons 4)).symm⟩

theorem pScore_inv (j : Nat) (prevM : Option Cell) (p : Option PCell)
    (hM : ∀ c, prevM = some c → CellInv white delim initial cls c j)
    (hP : ∀ q, p = some q → PInv white delim initial cls q j) :
    ∀ q, pScore prevM p = some q → PInv white delim initial cls q (j + 1) := by
  intro q hq
  rcases pScore_eq_some hq with ⟨m, rfl, rfl⟩ | ⟨r, rfl, rfl⟩
  · obtain ⟨_, _, hne, hb, e1, e2, _, _, _, _, hpw⟩ := hM m rfl
    exact pInv_skip white delim initial cls hne hb hpw (by rw [e1, e2]; rfl)
  · obtain ⟨_, _, hne, hb, e1, e2, _, _, hpw⟩ := hP r rfl
    exact pInv_skip white delim initial cls hne (fun k hk => ⟨(hb k hk).1, Nat.le_of_lt (hb k hk).2⟩) hpw
      (by rw [e1, e2]; rfl)

theorem specBonus_next (j : Nat) (s : SSt) (h : s.prev = cls j) :
    specBonus white delim s.prev (cls (j + 1)) = bonusAt white delim initial cls (j + 1) := by
  rw [h]; rfl

theorem matchStep_inv (j : Nat) (c : Cell) (h : CellInv white delim initial cls c j) (b sc cb : Nat)
    (hb : b = bonusAt white delim initial cls (j + 1))
    (hcb : cb = if b ≥ BONUS_BOUNDARY ∧ b > max c.consec BONUS_CONSECUTIVE then b else max c.consec BONUS_CONSECUTIVE)
    (hsc : sc = c.score + max cb b + SCORE_MATCH) :
    CellInv white delim initial cls ⟨sc, cb, c.path ++ [j + 1]⟩ (j + 1) := by
  obtain ⟨_, _, hne, hbd, e1, _, e3, e4, e5, _, hpw⟩ := h
  have ar := bonus_arith b _ c.consec e5
  have hbb := specBonus_next white delim initial cls j _ e4
  rw [← hb] at hbb
  apply cellInv_snoc white delim initial cls hne hbd hpw
  · simp only [sMatch, e3, if_true, hbb, e1, ar.1]
    rw [hsc, hcb]; exact Nat.add_right_comm _ _ _
  · simp only [sMatch, e3, if_true, hbb, ar.2]
    rw [hcb]; rfl

theorem skipStep_inv (j : Nat) (q : PCell) (h : PInv white delim initial cls q j) (b : Nat)
    (hb : b = bonusAt white delim initial cls (j + 1)) :
    CellInv white delim initial cls ⟨q.score + b + SCORE_MATCH, b, q.path ++ [j + 1]⟩ (j + 1) := by
  obtain ⟨_, _, hne, hbd, e1, _, e3, e4, hpw⟩ := h
  have hbb := specBonus_next white delim initial cls j _ e4
  rw [← hb] at hbb
  apply cellInv_snoc white delim initial cls hne (fun k hk => ⟨(hbd k hk).1, Nat.le_of_lt (hbd k hk).2⟩) hpw
  · simp only [sMatch, e3, Bool.false_eq_true, if_false, hbb, e1]
    exact Nat.add_right_comm _ _ _
  · simp only [sMatch, e3, Bool.false_eq_true, if_false, hbb]

theorem nextM_inv (j : Nat) (m : Option Cell) (p : Option PCell) (b : Nat)
    (hb : b = bonusAt white delim initial cls (j + 1))
    (hM : ∀ c, m = some c → CellInv white delim initial cls c j)
    (hP : ∀ q, p = some q → PInv white delim initial cls q j) :
    ∀ c, nextM p b m (j + 1) = some c → CellInv white delim initial cls c (j + 1) := by
  intro c hc
  rcases nextM_eq_some hc with ⟨c0, cb, rfl, hcb, rfl⟩ | ⟨q, rfl, rfl⟩
  · exact matchStep_inv white delim initial cls j c0 (hM _ rfl) b _ cb hb hcb rfl
  · exact skipStep_inv white delim initial cls j q (hP _ rfl) b hb

theorem cellInv_single (j : Nat) :
    CellInv white delim initial cls
      ⟨bonusAt white delim initial cls j * BONUS_FIRST_CHAR_MULTIPLIER + SCORE_MATCH, bonusAt white delim initial cls j, [j]⟩ j := by
  have hs : specAt white delim initial cls [j] j j = sInit white delim (pcls initial cls j) (cls j) :=
    specAt_le_first white delim initial cls _ j j (Nat.le_refl _)
  unfold CellInv
  dsimp only [firstOf, List.headD_cons]
  rw [hs]
  refine ⟨Nat.le_refl _, List.mem_singleton.mpr rfl, by simp, fun k hk => ?_, ?_, rfl, rfl, rfl, rfl, rfl,
    List.pairwise_singleton _ _⟩
  · rw [List.mem_singleton.mp hk]; exact ⟨Nat.le_refl _, Nat.le_refl _⟩
  · show 16 + 2 * bonusAt white delim initial cls j = _
    rw [Nat.add_comm, Nat.mul_comm]; rfl

def ColsOK (cols : List Col) (j0 : Nat) : Prop :=
  ∀ k c, cols[k]? = some c → c.idx = j0 + k ∧ c.bonus = bonusAt white delim initial cls (j0 + k)

def RowInv (j0 : Nat) (row : List (Option Cell)) : Prop :=
  ∀ k c, row[k]? = some (some c) → CellInv white delim initial cls c (j0 + k)

theorem nextRow_inv (nc : Nat) (row : List (Option Cell)) (cols : List Col) (j0 : Nat)
    (hcols : ColsOK white delim initial cls cols j0) (hrow : RowInv white delim initial cls j0 row) :
    RowInv white delim initial cls j0 (nextRow nc row cols) :=
  nextRow_rule nc row cols (fun k c => CellInv white delim initial cls c (j0 + k))
    (fun k c => CellInv white delim initial cls c (j0 + k))
    (fun k q => PInv white delim initial cls q (j0 + k)) hrow
    (fun k m p hM hP => pScore_inv white delim initial cls (j0 + k) m p hM hP)
    (fun k col hk _ m p hM hP => by
      obtain ⟨e1, e2⟩ := hcols (k + 1) col hk
      rw [e1]
      exact nextM_inv white delim initial cls (j0 + k) m p col.bonus e2 hM hP)

theorem allRows_inv (cols : List Col) (j0 : Nat) (hcols : ColsOK white delim initial cls cols j0) :
    ∀ (ns : List Nat) (row : List (Option Cell)), RowInv white delim initial cls j0 row →
      RowInv white delim initial cls j0 (allRows cols ns row) := by
  intro ns
  induction ns with
  | nil => intro row h; exact h
  | cons nc ns ih => intro row h; exact ih _ (nextRow_inv white delim initial cls nc row cols j0 hcols h)

theorem firstRow_inv (n0 : Nat) : ∀ (cols : List Col) (j0 : Nat), ColsOK white delim initial cls cols j0 →
    RowInv white delim initial cls j0 (firstRow n0 cols 0) := by
  intro cols j0 hcols k c h
  rw [firstRow_getElem?] at h
  cases hk : cols[k]? with
  | none => rw [hk] at h; cases h
  | some col =>
    obtain ⟨e1, e2⟩ := hcols k col hk
    rw [hk] at h
    simp only [Option.map_some, Option.some.injEq, Nat.zero_sub, Nat.zero_div, Nat.add_zero] at h
    split at h
    · cases h; rw [e1, e2]; exact cellInv_single white delim initial cls (j0 + k)
    · cases h

end

/-- class of the haystack character at absolute column `j`; past the end the value (`cfg.initial`) is arbitrary, the
    columns of a window lie inside the haystack -/
def clsOf (cfg : Cfg) (ext : Ext) (h : List Nat) (j : Nat) : CharClass :=
  (h[j]?.map (charClass cfg ext)).getD cfg.initial

/-- the normalized character of the haystack at absolute column `x` (as `setup` stores it) -/
def chAt (cfg : Cfg) (hrep : Rep) (h : List Nat) (x : Nat) : Nat := (h[x]?.map (cnorm cfg hrep)).getD 0

theorem pcls_eq_prevClassAt (cfg : Cfg) (ext : Ext) (h : List Nat) (j : Nat) :
    pcls cfg.initial (clsOf cfg ext h) j = prevClassAt cfg ext h j := by
  unfold pcls prevClassAt clsOf
  split
  · rfl
  · cases h[j - 1]? <;> rfl

theorem window_getElem? {h : List Nat} {start len k c : Nat} (hk : ((h.drop start).take len)[k]? = some c) :
    h[start + k]? = some c := by
  rw [List.getElem?_take] at hk
  split at hk
  · rwa [List.getElem?_drop] at hk
  · cases hk

theorem windowCols_go_getElem? (cfg : Cfg) (ext : Ext) (hrep : Rep) (h : List Nat) :
    ∀ (l : List Nat) (idx : Nat) (prev : CharClass),
      (∀ k c, l[k]? = some c → h[idx + k]? = some c) → prev = prevClassAt cfg ext h idx →
      ∀ k : Nat, (windowCols.go cfg ext hrep prev idx l)[k]? = l[k]?.map fun c =>
        (⟨idx + k, cnorm cfg hrep c, bonusFor cfg (prevClassAt cfg ext h (idx + k)) (charClass cfg ext c)⟩ : Col) := by
  intro l
  induction l with
  | nil => intro _ _ _ _ _; rfl
  | cons c0 cs ih =>
    intro idx prev hl hprev k
    cases k with
    | zero => simp only [windowCols.go, List.getElem?_cons_zero, Option.map_some, Nat.add_zero, hprev]
    | succ k =>
      have h0 : h[idx]? = some c0 := hl 0 c0 rfl
      simp only [windowCols.go, List.getElem?_cons_succ]
      rw [ih (idx + 1) _ (fun k c hk => by rw [Nat.add_right_comm]; exact hl (k + 1) c hk)
        (by simp only [prevClassAt, Nat.add_sub_cancel, h0, Nat.succ_ne_zero, if_false]), Nat.add_right_comm]
      rfl

theorem windowCols_getElem? (cfg : Cfg) (ext : Ext) (hrep : Rep) (h : List Nat) (start end_ k : Nat) :
    (windowCols cfg ext hrep h start end_)[k]? = ((h.drop start).take (end_ - start))[k]?.map fun c =>
      (⟨start + k, cnorm cfg hrep c, bonusFor cfg (prevClassAt cfg ext h (start + k)) (charClass cfg ext c)⟩ : Col) :=
  windowCols_go_getElem? cfg ext hrep h _ start _ (fun _ _ hk => window_getElem? hk) rfl k

theorem windowCols_map_ch (cfg : Cfg) (ext : Ext) (hrep : Rep) (h : List Nat) (start end_ : Nat) :
    (windowCols cfg ext hrep h start end_).map (·.ch) = ((h.drop start).take (end_ - start)).map (cnorm cfg hrep) := by
  apply List.ext_getElem?
  intro k
  rw [List.getElem?_map, windowCols_getElem?, List.getElem?_map, Option.map_map]
  rfl

theorem windowCols_go_length (cfg : Cfg) (ext : Ext) (hrep : Rep) :
    ∀ (l : List Nat) (idx : Nat) (prev : CharClass), (windowCols.go cfg ext hrep prev idx l).length = l.length := by
  intro l
  induction l with
  | nil => intro _ _; rfl
  | cons c cs ih => intro idx prev; simp [windowCols.go, ih]

theorem windowCols_length (cfg : Cfg) (ext : Ext) (hrep : Rep) (h : List Nat) (start end_ : Nat) :
    (windowCols cfg ext hrep h start end_).length = min (end_ - start) (h.length - start) := by
  rw [windowCols, windowCols_go_length, List.length_take, List.length_drop]

theorem windowCols_length_le (cfg : Cfg) (ext : Ext) (hrep : Rep) (h : List Nat) (start end_ : Nat) :
    start + (windowCols cfg ext hrep h start end_).length ≤ max start h.length := by
  rw [windowCols_length]
  refine Nat.le_trans (Nat.add_le_add_left (Nat.min_le_right _ _) _) ?_
  rcases Nat.le_total start h.length with hl | hl
  · rw [Nat.add_sub_cancel' hl]; exact Nat.le_max_right _ _
  · rw [Nat.sub_eq_zero_of_le hl]; exact Nat.le_max_left _ _

theorem windowCols_mem {cfg : Cfg} {ext : Ext} {hrep : Rep} {h : List Nat} {start end_ k : Nat} {col : Col}
    (hk : (windowCols cfg ext hrep h start end_)[k]? = some col) :
    ∃ c, ((h.drop start).take (end_ - start))[k]? = some c ∧
      col = ⟨start + k, cnorm cfg hrep c, bonusFor cfg (prevClassAt cfg ext h (start + k)) (charClass cfg ext c)⟩ := by
  rw [windowCols_getElem?] at hk
  cases hw : ((h.drop start).take (end_ - start))[k]? with
  | none => rw [hw] at hk; cases hk
  | some c => rw [hw] at hk; cases hk; exact ⟨c, rfl, rfl⟩

theorem windowCols_ok (cfg : Cfg) (ext : Ext) (hrep : Rep) (h : List Nat) (start end_ : Nat) :
    ColsOK cfg.white cfg.delim cfg.initial (clsOf cfg ext h) (windowCols cfg ext hrep h start end_) start := by
  intro k col hk
  obtain ⟨c, hc, rfl⟩ := windowCols_mem hk
  refine ⟨rfl, ?_⟩
  simp only [bonusAt, pcls_eq_prevClassAt, clsOf, window_getElem? hc, Option.map_some, Option.getD_some]
  exact bonusFor_eq_spec cfg _ _

theorem windowCols_ch (cfg : Cfg) (ext : Ext) (hrep : Rep) (h : List Nat) (start end_ : Nat) :
    ∀ c ∈ windowCols cfg ext hrep h start end_, chAt cfg hrep h c.idx = c.ch := by
  intro col hcol
  obtain ⟨k, hk⟩ := List.getElem?_of_mem hcol
  obtain ⟨c, hc, rfl⟩ := windowCols_mem hk
  simp only [chAt, window_getElem? hc, Option.map_some, Option.getD_some]

theorem windowCols_idx (cfg : Cfg) (ext : Ext) (hrep : Rep) (h : List Nat) (start end_ : Nat) :
    ∀ c ∈ windowCols cfg ext hrep h start end_, start ≤ c.idx ∧ c.idx < h.length := by
  intro col hcol
  obtain ⟨k, hk⟩ := List.getElem?_of_mem hcol
  obtain ⟨c, hc, rfl⟩ := windowCols_mem hk
  exact ⟨Nat.le_add_right _ _, (List.getElem?_eq_some_iff.mp (window_getElem? hc)).1⟩

theorem sWalk_eq_specAt (cfg : Cfg) (ext : Ext) (h : List Nat) (path : List Nat) (first : Nat) :
    ∀ (cs : List Nat) (col : Nat), first ≤ col → (∀ i c, cs[i]? = some c → h[col + 1 + i]? = some c) →
      sWalk cfg.white cfg.delim (charClass cfg ext) path
        (specAt cfg.white cfg.delim cfg.initial (clsOf cfg ext h) path first col) (col + 1) cs
      = specAt cfg.white cfg.delim cfg.initial (clsOf cfg ext h) path first (col + cs.length) := by
  intro cs
  induction cs with
  | nil => intro col _ _; rfl
  | cons c cs ih =>
    intro col hle hcs
    have hcls : clsOf cfg ext h (col + 1) = charClass cfg ext c := by
      simp only [clsOf, hcs 0 c rfl, Option.map_some, Option.getD_some]
    have step := specAt_succ_of_le cfg.white cfg.delim cfg.initial (clsOf cfg ext h) path first col hle
    rw [hcls] at step
    rw [sWalk, ← step, ih (col + 1) (Nat.le_succ_of_le hle)
      (fun i d hi => by rw [Nat.add_right_comm (col + 1)]; exact hcs (i + 1) d hi),
      List.length_cons, Nat.add_right_comm, Nat.add_assoc]

theorem alignScore_cons (cfg : Cfg) (ext : Ext) (h : List Nat) (first : Nat) (t : List Nat) (hf : first < h.length) :
    alignScore cfg ext h (first :: t) =
      (sWalk cfg.white cfg.delim (charClass cfg ext) (first :: t)
        (sInit cfg.white cfg.delim (prevClassAt cfg ext h first) (charClass cfg ext h[first])) (first + 1)
        ((h.drop (first + 1)).take ((first :: t).getLast?.getD first - first))).score := by
  rw [alignScore, List.drop_eq_getElem_cons hf, ← pcls_eq_prevClassAt]
  rfl

theorem cellInv_score (cfg : Cfg) (ext : Ext) (h : List Nat) (c : Cell) (j : Nat) (hj : j < h.length)
    (inv : CellInv cfg.white cfg.delim cfg.initial (clsOf cfg ext h) c j) : c.score = alignScore cfg ext h c.path := by
  obtain ⟨h1, _, hne, _, e1, _, _, _, _, hlast, _⟩ := inv
  cases hp : c.path with
  | nil => exact absurd hp hne
  | cons first t =>
    rw [hp] at hlast
    rw [hp, show firstOf (first :: t) = first from rfl] at h1 e1
    have hflt : first < h.length := Nat.lt_of_le_of_lt h1 hj
    have hinit : sInit cfg.white cfg.delim (prevClassAt cfg ext h first) (charClass cfg ext h[first])
        = specAt cfg.white cfg.delim cfg.initial (clsOf cfg ext h) (first :: t) first first := by
      rw [specAt_le_first cfg.white cfg.delim cfg.initial _ _ _ _ (Nat.le_refl _), pcls_eq_prevClassAt]
      simp only [clsOf, List.getElem?_eq_getElem hflt, Option.map_some, Option.getD_some]
    rw [alignScore_cons cfg ext h first t hflt, hlast, Option.getD_some, hinit,
      sWalk_eq_specAt cfg ext h _ first _ first (Nat.le_refl _) (fun _ _ hi => window_getElem? hi),
      List.length_take, List.length_drop,
      Nat.min_eq_left (Nat.add_sub_add_right j 1 first ▸ Nat.sub_le_sub_right hj (first + 1)), Nat.add_sub_cancel' h1, e1]

theorem optimalDP_sorted (cfg : Cfg) (ext : Ext) (hrep : Rep) (h n : List Nat) (start end_ sc : Nat) (path : List Nat)
    (hres : optimalDP cfg ext hrep h n start end_ = some (sc, path)) :
    path.Pairwise (· < ·) ∧ ∀ x ∈ path, start ≤ x ∧ x < h.length := by
  cases n with
  | nil => cases hres
  | cons n0 ns =>
    obtain ⟨k, c, hk, _, rfl⟩ := optimalDP_eq_some hres
    have hidx := windowCols_idx cfg ext hrep h start end_
    constructor
    · refine (allRows_sorted _ start (fun k col hk => (windowCols_ok cfg ext hrep h start end_ k col hk).1) ns _
        (fun k c hc => ?_) k c hk).1
      rw [firstRow_getElem?] at hc
      cases hcol : (windowCols cfg ext hrep h start end_)[k]? with
      | none => rw [hcol] at hc; cases hc
      | some col =>
        rw [hcol, Option.map_some, Option.some.injEq] at hc
        split at hc <;> cases hc
        exact ⟨List.pairwise_singleton _ _, fun x hx =>
          Nat.le_of_eq ((List.mem_singleton.mp hx).trans (windowCols_ok cfg ext hrep h start end_ k col hcol).1)⟩
    · -- every index of every alignment is a column of the window
      let Q : List Nat → List Nat → Prop := fun _ l => ∀ x ∈ l, start ≤ x ∧ x < h.length
      exact allRows_paths _ Q
        (fun col hcol _ l hl x hx => (List.mem_append.mp hx).elim (hl x) fun hx => by
          rw [List.mem_singleton.mp hx]; exact hidx col hcol)
        ns [n0] _ (firstRow_paths _ Q (fun col hcol x hx => by rw [List.mem_singleton.mp hx]; exact hidx col hcol) n0 _) k c hk

/-- The recurrence reports the scheme's value of the alignment it reports, prefix preference off.  It works on
    unbounded naturals; `C03_fits_u16` bounds the values so that the `u16` cells of the real matrix hold them. -/
theorem optimalDP_eq_alignScore (cfg : Cfg) (ext : Ext) (hrep : Rep) (h n : List Nat) (start end_ : Nat)
    (hpp : cfg.preferPrefix = false) (sc : Nat) (path : List Nat)
    (hres : optimalDP cfg ext hrep h n start end_ = some (sc, path)) :
    sc = alignScore cfg ext h path ∧ path.Pairwise (· < ·) ∧ ∀ x ∈ path, start ≤ x ∧ x < h.length := by
  refine ⟨?_, optimalDP_sorted cfg ext hrep h n start end_ sc path hres⟩
  have hin := (optimalDP_sorted cfg ext hrep h n start end_ sc path hres).2
  cases n with
  | nil => cases hres
  | cons n0 ns =>
    obtain ⟨k, c, hk, rfl, rfl⟩ := optimalDP_eq_some hres
    have hps : prefixStart cfg start = 0 := by rw [prefixStart, hpp]; rfl
    rw [hps] at hk
    have colsok := windowCols_ok cfg ext hrep h start end_
    have inv := allRows_inv cfg.white cfg.delim cfg.initial (clsOf cfg ext h) _ start colsok ns _
      (firstRow_inv cfg.white cfg.delim cfg.initial (clsOf cfg ext h) n0 _ start colsok) k c hk
    exact cellInv_score cfg ext h c _ (hin _ inv.2.1).2 inv

end DP
end NucleoVerif
