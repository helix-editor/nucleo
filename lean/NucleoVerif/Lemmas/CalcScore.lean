import NucleoVerif.Lemmas.DP
import NucleoVerif.Lemmas.Entry
/-! The loop of `calculate_score` step by step (`csStep`, `csLoop`, `csRun`): which indices it pushes and in what order;
and the criterion by which an index list is a valid witness: increasing, in range, spelling the needle. -/
namespace NucleoVerif
open Gen Spec

theorem csStep_of_ne (cfg : Cfg) (ext : Ext) (hrep : Rep) (l : CsLoop) (pos c : Nat) (hm : cnorm cfg hrep c ≠ l.needleChar) :
    csStep cfg ext hrep l pos c = { l with st := stepSkip l.st (charClass cfg ext c) } := by
  unfold csStep
  exact if_neg hm

theorem csStep_of_eq_cons (cfg : Cfg) (ext : Ext) (hrep : Rep) (l : CsLoop) (pos c nx : Nat) (r : List Nat)
    (hm : cnorm cfg hrep c = l.needleChar) (hr : l.rest = nx :: r) :
    csStep cfg ext hrep l pos c =
      { st := stepMatch cfg l.st (charClass cfg ext c), needleChar := nx, rest := r, idxRev := pos :: l.idxRev } := by
  unfold csStep
  simp only [hm, if_true, hr]

theorem csStep_of_eq_nil (cfg : Cfg) (ext : Ext) (hrep : Rep) (l : CsLoop) (pos c : Nat)
    (hm : cnorm cfg hrep c = l.needleChar) (hr : l.rest = []) :
    csStep cfg ext hrep l pos c =
      { st := stepMatch cfg l.st (charClass cfg ext c), needleChar := l.needleChar, rest := [], idxRev := pos :: l.idxRev } := by
  unfold csStep
  simp only [hm, if_true, hr]

theorem csStep_cases (cfg : Cfg) (ext : Ext) (hrep : Rep) (l : CsLoop) (pos c : Nat) :
    ((csStep cfg ext hrep l pos c).st = stepMatch cfg l.st (charClass cfg ext c) ∧ (csStep cfg ext hrep l pos c).idxRev = pos :: l.idxRev) ∨
    ((csStep cfg ext hrep l pos c).st = stepSkip l.st (charClass cfg ext c) ∧ (csStep cfg ext hrep l pos c).idxRev = l.idxRev) := by
  unfold csStep
  split
  · left; split <;> exact ⟨rfl, rfl⟩
  · right; exact ⟨rfl, rfl⟩

/-- the loop pushes the position of each matching step: in range, newest first, earlier entries kept -/
theorem csLoop_idx_new (cfg : Cfg) (ext : Ext) (hrep : Rep) :
    ∀ (cs : List Nat) (l : CsLoop) (pos : Nat), ∃ new, (csLoop cfg ext hrep l pos cs).idxRev = new ++ l.idxRev ∧
      (∀ x ∈ new, pos ≤ x ∧ x < pos + cs.length) ∧ new.Pairwise (· > ·) := by
  intro cs
  induction cs with
  | nil => intro l pos; exact ⟨[], rfl, fun _ hx => absurd hx List.not_mem_nil, List.Pairwise.nil⟩
  | cons c cs ih =>
    intro l pos
    obtain ⟨new, hn, hb, hp⟩ := ih (csStep cfg ext hrep l pos c) (pos + 1)
    have hb' : ∀ x ∈ new, pos ≤ x ∧ x < pos + (c :: cs).length := fun x hx => by
      have := hb x hx; rw [List.length_cons]; omega
    rcases csStep_cases cfg ext hrep l pos c with ⟨_, e⟩ | ⟨_, e⟩
    · refine ⟨new ++ [pos], by rw [csLoop, hn, e, List.append_assoc]; rfl, fun x hx => ?_, ?_⟩
      · rcases List.mem_append.mp hx with hx | hx
        · exact hb' x hx
        · rw [List.mem_singleton.mp hx, List.length_cons]; omega
      · exact List.pairwise_append.mpr ⟨hp, List.pairwise_singleton _ _, fun a ha b hb0 => by
          rw [List.mem_singleton.mp hb0]; exact (hb a ha).1⟩
    · exact ⟨new, by rw [csLoop, hn, e], hb', hp⟩

theorem csLoop_all_match (cfg : Cfg) (ext : Ext) (hrep : Rep) :
    ∀ (cs : List Nat) (l : CsLoop) (pos : Nat), cs.map (cnorm cfg hrep) = l.needleChar :: l.rest →
      (csLoop cfg ext hrep l pos cs).idxRev = (List.range' pos cs.length).reverse ++ l.idxRev := by
  intro cs
  induction cs with
  | nil => intro l pos hm; cases hm
  | cons c cs ih =>
    intro l pos hm
    rw [List.map_cons, List.cons.injEq] at hm
    rw [csLoop]
    cases hr : l.rest with
    | nil =>
      rw [hr] at hm
      cases List.map_eq_nil_iff.mp hm.2
      rw [csStep_of_eq_nil cfg ext hrep l pos c hm.1 hr]
      rfl
    | cons nx r =>
      rw [hr] at hm
      rw [csStep_of_eq_cons cfg ext hrep l pos c nx r hm.1 hr, ih _ (pos + 1) hm.2]
      simp only [List.length_cons, List.range'_succ, List.reverse_cons, List.append_assoc, List.singleton_append]

theorem calculateScore_cons (cfg : Cfg) (ext : Ext) (hrep : Rep) (h : List Nat) (n0 : Nat) (nrest : List Nat) (start end_ : Nat)
    (hs : start < h.length) :
    calculateScore cfg ext hrep h (n0 :: nrest) start end_ =
      (sat16 ((csRun cfg ext hrep h n0 nrest h[start] (h.drop (start + 1)) start end_).st.score + prefixBonusCs cfg start),
       (csRun cfg ext hrep h n0 nrest h[start] (h.drop (start + 1)) start end_).idxRev.reverse) := by
  simp only [calculateScore, List.drop_eq_getElem_cons hs]

theorem csRun_idx (cfg : Cfg) (ext : Ext) (hrep : Rep) (h : List Nat) (n0 : Nat) (nrest : List Nat) (c0 : Nat) (hrest : List Nat)
    (start end_ : Nat) (hse : start < end_) :
    ∃ new, (csRun cfg ext hrep h n0 nrest c0 hrest start end_).idxRev.reverse = start :: new ∧
      (∀ x ∈ new, start + 1 ≤ x ∧ x < end_) ∧ new.Pairwise (· < ·) := by
  obtain ⟨new, hn, hb, hp⟩ := csLoop_idx_new cfg ext hrep (hrest.take (end_ - (start + 1)))
    { st := stInit cfg (prevClassAt cfg ext h start) (charClass cfg ext c0),
      needleChar := (needleAfterFirst n0 nrest).1, rest := (needleAfterFirst n0 nrest).2, idxRev := [start] } (start + 1)
  refine ⟨new.reverse, by rw [csRun, hn, List.reverse_append]; rfl, fun x hx => ?_, List.pairwise_reverse.mpr hp⟩
  -- the loop scans at most `end - (start + 1)` characters
  obtain ⟨h1, h2⟩ := hb x (List.mem_reverse.mp hx)
  exact ⟨h1, Nat.add_sub_cancel' hse ▸ Nat.lt_of_lt_of_le h2 (Nat.add_le_add_left (List.length_take_le _ _) _)⟩

theorem calculateScore_head (cfg : Cfg) (ext : Ext) (hrep : Rep) (h : List Nat) (n0 : Nat) (nrest : List Nat) (start end_ : Nat)
    (hst : start < h.length) (hse : start < end_) : (calculateScore cfg ext hrep h (n0 :: nrest) start end_).2.head? = some start := by
  obtain ⟨new, hn, -⟩ := csRun_idx cfg ext hrep h n0 nrest h[start] (h.drop (start + 1)) start end_ hse
  rw [calculateScore_cons cfg ext hrep h n0 nrest start end_ hst, hn]
  rfl

open DP

theorem pairwise_zip_drop : ∀ (l : List Nat), l.Pairwise (· < ·) → ∀ p ∈ l.zip (l.drop 1), p.1 < p.2 := by
  intro l
  induction l with
  | nil => intro _ p hp; simp at hp
  | cons a t ih =>
    intro hpw p hp
    have hpw' := List.pairwise_cons.mp hpw
    cases t with
    | nil => simp at hp
    | cons b t' =>
      simp only [List.drop_succ_cons, List.drop_zero, List.zip_cons_cons, List.mem_cons] at hp
      rcases hp with hp | hp
      · subst hp; exact hpw'.1 b (by simp)
      · exact ih hpw'.2 p (by simpa using hp)

theorem all_zip_map (f : Nat → Nat) (g : Nat × Nat → Bool) : ∀ (l : List Nat), (l.zip (l.map f)).all g = l.all fun x => g (x, f x)
  | [] => rfl
  | a :: t => by rw [List.map_cons, List.zip_cons_cons, List.all_cons, List.all_cons, all_zip_map f g t]

theorem validWitness_of_spells (cfg : Cfg) (hrep : Rep) (h n path : List Nat)
    (hpw : path.Pairwise (· < ·)) (hin : ∀ x ∈ path, x < h.length) (hsp : path.map (chAt cfg hrep h) = n) :
    validWitnessB cfg hrep h n path = true := by
  subst hsp
  rw [validWitnessB, Bool.and_eq_true, Bool.and_eq_true, all_zip_map, List.all_eq_true, List.all_eq_true]
  refine ⟨⟨by rw [List.length_map]; exact beq_self_eq_true _, fun p hp => decide_eq_true (pairwise_zip_drop path hpw p hp)⟩,
    fun x hx => ?_⟩
  have hlt := hin x hx
  simp only [chAt, List.getElem?_eq_getElem hlt, Option.map_some, Option.getD_some, beq_iff_eq]
  exact (cnorm_eq_norm cfg hrep h[x]).symm

end NucleoVerif
