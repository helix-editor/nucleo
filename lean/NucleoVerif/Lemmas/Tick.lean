import NucleoVerif.Model.Nucleo
/-! The building blocks of `Nucleo.tick` as explicit record updates of their input, so that each field of a result is a
projection away; and `tick` as its deciding `tick_inner` (`tickPlain`), preceded by `tickCancelFirst` if it cancels. -/
namespace NucleoVerif.Nu

theorem Nucleo.workerAfter_eq (n : Nucleo) : n.workerAfter = { n.worker with running := false } := by
  unfold Nucleo.workerAfter
  split
  · rfl
  · rename_i h
    have h : n.worker.running = false := by simpa using h
    rw [← h]

theorem Nucleo.joinRun_eq (n : Nucleo) (run : Worker → Worker) :
    n.joinRun run = { n with worker := if n.pending.isSome then run n.worker else n.worker, pending := none } := by
  rcases n with ⟨_, _, _, _, _, _, _, _ | _, _, _, _⟩ <;> rfl

theorem Nucleo.snapAfter_of_not (n : Nucleo) (h : n.worker.running = false ∨ n.state.canceled = true) :
    n.snapAfter = n.snapshot := by
  unfold Nucleo.snapAfter
  rcases h with h | h <;> simp [h]

theorem Nucleo.snapAfter_of_result (n : Nucleo) (hr : n.worker.running = true) (hc : n.worker.wasCanceled = false)
    (hs : n.state = .fresh) : n.snapAfter = n.snapshot.update n.worker := by
  simp [Nucleo.snapAfter, hr, hc, hs, NState.canceled]

theorem tickInnerLocked_spawn (n : Nucleo) (c : Bool) (st : PStatus) (k : Nat) (h : c = true ∨ n.worker.itemCount < k) :
    tickInnerLocked n c st k =
      ({ n with snapshot := n.snapAfter,
                worker := { n.worker with running := false, pattern := n.pattern,
                                          stream := if n.state.canceled then n.cur else n.worker.stream },
                cancelFlag := false,
                shouldNotify := if c then n.shouldNotify else true,
                pending := some ⟨st, n.state.canceled⟩ }, ⟨n.worker.running, true⟩) := by
  have h : (c || decide (k > n.worker.itemCount)) = true := by simpa using h
  unfold tickInnerLocked
  rw [if_pos h, Nucleo.workerAfter_eq]

theorem tickInnerLocked_idle (n : Nucleo) (st : PStatus) (k : Nat) (h : k ≤ n.worker.itemCount) :
    tickInnerLocked n false st k =
      ({ n with snapshot := n.snapAfter, worker := { n.worker with running := false } }, ⟨n.worker.running, false⟩) := by
  have h : ¬ (false || decide (k > n.worker.itemCount)) = true := by simpa using h
  unfold tickInnerLocked
  rw [if_neg h, Nucleo.workerAfter_eq]

theorem tickInnerLocked_status (n : Nucleo) (c : Bool) (st : PStatus) (k : Nat) :
    (tickInnerLocked n c st k).2 = ⟨n.worker.running, c || decide (k > n.worker.itemCount)⟩ := by
  unfold tickInnerLocked
  cases (c || decide (k > n.worker.itemCount)) <;> rfl

theorem tickInnerLocked_snapshot (n : Nucleo) (c : Bool) (st : PStatus) (k : Nat) :
    (tickInnerLocked n c st k).1.snapshot = n.snapAfter := by
  unfold tickInnerLocked
  cases (c || decide (k > n.worker.itemCount)) <;> rfl

theorem tickInnerLocked_frame (n : Nucleo) (c : Bool) (st : PStatus) (k : Nat) :
    (tickInnerLocked n c st k).1.state = n.state ∧ (tickInnerLocked n c st k).1.status = n.status ∧
    (tickInnerLocked n c st k).1.cur = n.cur ∧ (tickInnerLocked n c st k).1.nextStream = n.nextStream ∧
    (tickInnerLocked n c st k).1.injectors = n.injectors ∧ (tickInnerLocked n c st k).1.pattern = n.pattern := by
  unfold tickInnerLocked
  cases (c || decide (k > n.worker.itemCount)) <;> exact ⟨rfl, rfl, rfl, rfl, rfl, rfl⟩

theorem NState.canceled_eq_false_iff (s : NState) : s.canceled = false ↔ s = .fresh := by
  cases s <;> simp [NState.canceled]

theorem Nucleo.tickCancels_eq_false_iff (n : Nucleo) : n.tickCancels = false ↔ n.status = .unchanged ∧ n.state = .fresh := by
  simp [Nucleo.tickCancels, NState.canceled_eq_false_iff]

theorem Nucleo.tickCancelFirst_eq (n : Nucleo) (o : TickOracle) :
    n.tickCancelFirst o =
      ({ n with state := .fresh, status := .unchanged,
                snapshot := (n.joinRun o.run0).snapAfter,
                worker := { (n.joinRun o.run0).worker with
                              running := false, pattern := n.pattern,
                              stream := if n.state.canceled then n.cur else (n.joinRun o.run0).worker.stream },
                cancelFlag := false,
                pending := some ⟨n.status, n.state.canceled⟩ },
       ⟨(n.joinRun o.run0).worker.running, true⟩) := by
  unfold Nucleo.tickCancelFirst
  simp only [tickInnerLocked_spawn _ _ _ _ (Or.inl rfl), Nucleo.joinRun_eq]
  rfl

/-- the oracle entries read by the second `tick_inner` of a cancelling tick, put where the only `tick_inner` of a plain
    tick reads its own -/
def TickOracle.second (o : TickOracle) : TickOracle := { o with count1 := o.count2, lock1 := o.lock2, run0 := o.run1 }

theorem Nucleo.tickSecond_eq_tickPlain (n : Nucleo) (o : TickOracle) (h : n.pending.isSome = true) :
    n.tickSecond o = n.tickPlain o.second := by
  unfold Nucleo.tickSecond Nucleo.tickPlain TickOracle.second
  cases hl : o.lock2 <;> simp [h]

theorem Nucleo.tickPlain_cases (n : Nucleo) (o : TickOracle) :
    (n.pending.isSome = true ∧ n.tickPlain o = ({ n with shouldNotify := true }, ⟨false, true⟩)) ∨
    n.tickPlain o = tickInnerLocked (n.joinRun o.run0) false .unchanged o.count1 := by
  unfold Nucleo.tickPlain
  split
  · rename_i h
    exact Or.inl ⟨h.1, rfl⟩
  · exact Or.inr rfl

theorem Nucleo.tickPlain_shapes (n : Nucleo) (o : TickOracle) :
    (n.pending.isSome = true ∧ n.tickPlain o = ({ n with shouldNotify := true }, ⟨false, true⟩)) ∨
    ((n.joinRun o.run0).worker.itemCount < o.count1 ∧
      n.tickPlain o =
        ({ n with snapshot := (n.joinRun o.run0).snapAfter,
                  worker := { (n.joinRun o.run0).worker with
                                running := false, pattern := n.pattern,
                                stream := if n.state.canceled then n.cur else (n.joinRun o.run0).worker.stream },
                  cancelFlag := false, shouldNotify := true,
                  pending := some ⟨.unchanged, n.state.canceled⟩ },
         ⟨(n.joinRun o.run0).worker.running, true⟩)) ∨
    (o.count1 ≤ (n.joinRun o.run0).worker.itemCount ∧
      n.tickPlain o =
        ({ n with snapshot := (n.joinRun o.run0).snapAfter,
                  worker := { (n.joinRun o.run0).worker with running := false },
                  pending := none },
         ⟨(n.joinRun o.run0).worker.running, false⟩)) := by
  rcases n.tickPlain_cases o with h | e
  · exact Or.inl h
  · refine Or.inr ?_
    rw [e]
    rcases Nat.lt_or_ge (n.joinRun o.run0).worker.itemCount o.count1 with h | h
    · refine Or.inl ⟨h, ?_⟩
      rw [tickInnerLocked_spawn _ _ _ _ (Or.inr h)]
      simp only [Nucleo.joinRun_eq]
      rfl
    · refine Or.inr ⟨h, ?_⟩
      rw [tickInnerLocked_idle _ _ _ h]
      simp only [Nucleo.joinRun_eq]

theorem Nucleo.tick_of_not_cancels (n : Nucleo) (o : TickOracle) (h : n.tickCancels = false) :
    n.tick o = ({ n with shouldNotify := false } : Nucleo).tickPlain o := by
  -- `tickCancels` does not look at `shouldNotify`
  have h' : ({ n with shouldNotify := false } : Nucleo).tickCancels = false := h
  unfold Nucleo.tick
  exact if_neg (by rw [h']; exact Bool.false_ne_true)

theorem Nucleo.tick_of_cancels (n : Nucleo) (o : TickOracle) (h : n.tickCancels = true) :
    (n.tick o).1 = ((({ n with shouldNotify := false } : Nucleo).tickCancelFirst o).1.tickPlain o.second).1 ∧
    (n.tick o).2.running = ((({ n with shouldNotify := false } : Nucleo).tickCancelFirst o).1.tickPlain o.second).2.running ∧
    (n.tick o).2.changed = ((({ n with shouldNotify := false } : Nucleo).tickCancelFirst o).2.changed ||
      ((({ n with shouldNotify := false } : Nucleo).tickCancelFirst o).1.tickPlain o.second).2.changed) := by
  have hp : (({ n with shouldNotify := false } : Nucleo).tickCancelFirst o).1.pending.isSome = true := by
    rw [Nucleo.tickCancelFirst_eq]; rfl
  rw [← Nucleo.tickSecond_eq_tickPlain _ o hp, show n.tick o = _ from if_pos h]
  exact ⟨rfl, rfl, rfl⟩

theorem Nucleo.tick_deciding (n : Nucleo) (o : TickOracle) :
    ∃ (m : Nucleo) (o' : TickOracle),
      (n.tick o).1 = (m.tickPlain o').1 ∧ (n.tick o).2.running = (m.tickPlain o').2.running := by
  by_cases hc : n.tickCancels = true
  · exact ⟨_, _, (n.tick_of_cancels o hc).1, (n.tick_of_cancels o hc).2.1⟩
  · rw [Bool.not_eq_true] at hc
    rw [n.tick_of_not_cancels o hc]
    exact ⟨_, _, rfl, rfl⟩

theorem tickPlain_frame (n : Nucleo) (o : TickOracle) :
    (n.tickPlain o).1.state = n.state ∧ (n.tickPlain o).1.status = n.status ∧ (n.tickPlain o).1.cur = n.cur ∧
    (n.tickPlain o).1.nextStream = n.nextStream ∧ (n.tickPlain o).1.injectors = n.injectors ∧
    (n.tickPlain o).1.pattern = n.pattern := by
  rcases n.tickPlain_cases o with ⟨_, e⟩ | e
  · rw [e]
    exact ⟨rfl, rfl, rfl, rfl, rfl, rfl⟩
  · rw [e, Nucleo.joinRun_eq]
    exact tickInnerLocked_frame _ false .unchanged o.count1

theorem tick_frame (n : Nucleo) (o : TickOracle) :
    (n.tick o).1.cur = n.cur ∧ (n.tick o).1.nextStream = n.nextStream ∧ (n.tick o).1.injectors = n.injectors ∧
    (n.tick o).1.pattern = n.pattern := by
  by_cases hc : n.tickCancels = true
  · obtain ⟨_, _, p1, p2, p3, p4⟩ :=
      tickPlain_frame (({ n with shouldNotify := false } : Nucleo).tickCancelFirst o).1 o.second
    rw [(n.tick_of_cancels o hc).1, p1, p2, p3, p4, Nucleo.tickCancelFirst_eq]
    exact ⟨rfl, rfl, rfl, rfl⟩
  · rw [Bool.not_eq_true] at hc
    rw [Nucleo.tick_of_not_cancels n o hc]
    exact (tickPlain_frame _ o).2.2

end NucleoVerif.Nu
